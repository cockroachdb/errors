import ErrModel.Wire
/-
  The protobuf wire format of `errorspb.ErrorTypeMark` and of the string fields of
  `errorspb.EncodedErrorDetails` (original_type_name, error_type_mark, reportable_payload), as
  the generated gogo code of /repo/errorspb/errors.pb.go writes and reads them: base-128 varints,
  length-delimited fields, proto3 omission of empty strings, the non-nullable embedded mark.
-/
namespace ErrModel.Proto

abbrev Bytes := List UInt8

/-- `encodeVarintErrors` -/
def varint (n : Nat) : Bytes :=
  if n < 128 then [UInt8.ofNat n] else UInt8.ofNat (n % 128 + 128) :: varint (n / 128)
termination_by n
decreasing_by omega

/-- the varint loop of the generated `Unmarshal` (at most `fuel` bytes) -/
def readVarint : Nat → Bytes → Option (Nat × Bytes)
  | 0, _ => none
  | _ + 1, [] => none
  | f + 1, b :: r =>
    if b.toNat < 128 then some (b.toNat, r)
    else match readVarint f r with
      | none => none
      | some (v, r') => some (b.toNat - 128 + 128 * v, r')

theorem readVarint_varint : ∀ (n f : Nat) (rest : Bytes), (varint n).length ≤ f →
    readVarint f (varint n ++ rest) = some (n, rest) := by
  intro n f rest hf
  fun_induction varint n generalizing f with
  | case1 n h =>        -- the last byte (`n < 128`)
    cases f with
    | zero => simp at hf
    | succ f =>
      simp only [List.cons_append, List.nil_append, readVarint, UInt8.toNat_ofNat_of_lt' (Nat.lt_trans h (by decide)), h, if_true]
  | case2 n h ih =>     -- a byte with the continuation bit
    cases f with
    | zero => simp at hf
    | succ f =>
      have hb := UInt8.toNat_ofNat_of_lt' (show n % 128 + 128 < 256 from Nat.add_lt_add_right (Nat.mod_lt n (by decide)) 128)
      simp only [List.cons_append, readVarint, hb, ih f (Nat.le_of_succ_le_succ hf), Nat.not_lt.2 (Nat.le_add_left 128 _), if_false,
        Nat.add_sub_cancel, Nat.mod_add_div]

theorem varint_length_le : ∀ (k n : Nat), n < 128 ^ (k + 1) → (varint n).length ≤ k + 1 := by
  intro k n h
  fun_induction varint n generalizing k with
  | case1 n h1 => simp
  | case2 n h1 ih =>
    obtain ⟨k, rfl⟩ : ∃ j, k = j + 1 := ⟨k - 1, by cases k <;> simp_all⟩
    have := ih k (by rw [Nat.div_lt_iff_lt_mul (by decide), ← Nat.pow_succ]; exact h)
    simp only [List.length_cons]; omega

/-- a 64-bit length always fits the ten bytes the generated reader accepts -/
theorem varint_length_u64 (n : Nat) (h : n < 2 ^ 64) : (varint n).length ≤ 10 := by
  apply varint_length_le 9 n
  calc n < 2 ^ 64 := h
    _ ≤ 128 ^ 10 := by decide

/-- a length-delimited field (wire type 2) with a field number below 16 -/
def lenField (fno : Nat) (payload : Bytes) : Bytes :=
  UInt8.ofNat (fno * 8 + 2) :: (varint payload.length ++ payload)

/-- the field loop of the generated `Unmarshal`, for messages all of whose fields are length-delimited:
    (field number, payload) in wire order; `none` = the reader returns an error -/
def parseLD : Nat → Bytes → Option (List (Nat × Bytes))
  | _, [] => some []
  | 0, _ :: _ => none
  | f + 1, tag :: r =>
    if tag.toNat % 8 ≠ 2 then none
    else match readVarint 10 r with
      | none => none
      | some (len, r') =>
        if r'.length < len then none
        else match parseLD f (r'.drop len) with
          | none => none
          | some fs => some ((tag.toNat / 8, r'.take len) :: fs)

def serLD : List (Nat × Bytes) → Bytes
  | [] => []
  | (fno, p) :: r => lenField fno p ++ serLD r

def FieldsOK (fs : List (Nat × Bytes)) : Prop := ∀ x ∈ fs, 1 ≤ x.1 ∧ x.1 < 16 ∧ x.2.length < 2 ^ 64

theorem tag_toNat (fno wt : Nat) (h : fno < 16) (hw : wt < 8) :
    (UInt8.ofNat (fno * 8 + wt)).toNat % 8 = wt ∧ (UInt8.ofNat (fno * 8 + wt)).toNat / 8 = fno := by
  rw [UInt8.toNat_ofNat_of_lt' (show fno * 8 + wt < 256 by omega), Nat.mul_comm, Nat.mul_add_mod, Nat.mul_add_div (by decide),
    Nat.mod_eq_of_lt hw, Nat.div_eq_of_lt hw]
  exact ⟨rfl, rfl⟩

theorem parseLD_lenField (f fno : Nat) (p rest : Bytes) (h : fno < 16) (hp : p.length < 2 ^ 64) :
    parseLD (f + 1) (lenField fno p ++ rest) = (parseLD f rest).map ((fno, p) :: ·) := by
  have ⟨hm, hd⟩ := tag_toNat fno 2 h (by decide)
  simp only [lenField, List.cons_append, List.append_assoc, parseLD, hm, hd, readVarint_varint _ 10 _ (varint_length_u64 _ hp)]
  cases h : parseLD f rest <;> simp [h]

theorem parseLD_serLD : ∀ (fs : List (Nat × Bytes)) (f : Nat), FieldsOK fs → fs.length ≤ f →
    parseLD f (serLD fs) = some fs
  | [], f, _, _ => by cases f <;> rfl
  | (fno, p) :: r, f + 1, hok, hf => by
    have ⟨h1, hr⟩ := List.forall_mem_cons.1 hok
    rw [serLD, parseLD_lenField _ _ _ _ h1.2.1 h1.2.2, parseLD_serLD r f hr (by simpa using hf)]; rfl


theorem lenField_length (fno : Nat) (p : Bytes) : (lenField fno p).length = 1 + (varint p.length).length + p.length := by
  simp [lenField]; omega

theorem length_le_serLD : ∀ fs : List (Nat × Bytes), fs.length ≤ (serLD fs).length
  | [] => by simp [serLD]
  | (fno, p) :: r => by
    have := length_le_serLD r
    simp only [serLD, List.length_cons, List.length_append, lenField_length]
    omega

/-- the value of a singular field: the last occurrence wins, absent = empty (proto3) -/
def lastField (fs : List (Nat × Bytes)) (n : Nat) : Bytes :=
  match (fs.filter (fun x => x.1 = n)).getLast? with
  | some x => x.2
  | none => []

theorem lt_u64_of_lt_u62 {n : Nat} (h : n < 2 ^ 62) : n < 2 ^ 64 := Nat.lt_trans h (by decide)

/-! ### errorspb.ErrorTypeMark -/

def markFields (m : TMark) : List (Nat × Bytes) :=
  (if m.fam = [] then [] else [(1, m.fam)]) ++ (if m.ext = [] then [] else [(2, m.ext)])

/-- `(*ErrorTypeMark).Marshal`: proto3 omits empty strings -/
def serMark (m : TMark) : Bytes := serLD (markFields m)

/-- `(*ErrorTypeMark).Unmarshal` -/
def desMark (b : Bytes) : Option TMark :=
  match parseLD b.length b with
  | none => none
  | some fs => some ⟨lastField fs 1, lastField fs 2⟩

theorem desMark_serMark (m : TMark) (h1 : m.fam.length < 2 ^ 64) (h2 : m.ext.length < 2 ^ 64) :
    desMark (serMark m) = some m := by
  have hok : FieldsOK (markFields m) := by
    intro x hx
    simp only [markFields, List.mem_append] at hx
    rcases hx with hx | hx <;> (split at hx <;> simp at hx; subst hx; simp [h1, h2])
  have hp := parseLD_serLD (markFields m) (serMark m).length hok (length_le_serLD _)
  unfold desMark
  rw [show parseLD (serMark m).length (serMark m) = some (markFields m) from hp]
  cases m with
  | mk fam ext =>
    by_cases hf : fam = [] <;> by_cases he : ext = [] <;> simp [markFields, lastField, hf, he]

/-! ### the string fields of errorspb.EncodedErrorDetails -/

def detFields (d : Det) : List (Nat × Bytes) :=
  (if d.origType = [] then [] else [(1, d.origType)]) ++ [(2, serMark d.mark)] ++ d.rep.map (fun s => (3, s))

/-- `(*EncodedErrorDetails).Marshal` without `full_details`: the mark is embedded (non-nullable, always
    written), every reportable string is written, empty or not -/
def serDet (d : Det) : Bytes := serLD (detFields d)

/-- `(*EncodedErrorDetails).Unmarshal`, string fields: (original_type_name, error_type_mark, reportable_payload) -/
def desDet (b : Bytes) : Option (Str × TMark × List Str) :=
  match parseLD b.length b with
  | none => none
  | some fs =>
    match desMark (lastField fs 2) with
    | none => none
    | some m => some (lastField fs 1, m, (fs.filter (fun x => x.1 = 3)).map (·.2))

theorem serMark_length_le (m : TMark) (h1 : m.fam.length < 2 ^ 62) (h2 : m.ext.length < 2 ^ 62) :
    (serMark m).length < 2 ^ 64 := by
  have a := varint_length_u64 m.fam.length (lt_u64_of_lt_u62 h1)
  have b := varint_length_u64 m.ext.length (lt_u64_of_lt_u62 h2)
  cases m with
  | mk fam ext =>
    simp only at h1 h2 a b
    by_cases hf : fam = [] <;> by_cases he : ext = [] <;>
      simp [serMark, markFields, serLD, hf, he, lenField_length] <;> omega

/-- a reader of field `n` sees the repeated field `k` only if `k = n` -/
theorem filter_map_fno (k n : Nat) (l : List Bytes) :
    (l.map fun s => (k, s)).filter (fun x => x.1 = n) = if k = n then l.map (fun s => (k, s)) else [] := by
  induction l with
  | nil => split <;> rfl
  | cons s r ih => by_cases h : k = n <;> simp [ih, h]

theorem desDet_serDet (d : Det) (h1 : d.origType.length < 2 ^ 64) (h2 : d.mark.fam.length < 2 ^ 62)
    (h3 : d.mark.ext.length < 2 ^ 62) (h4 : ∀ s ∈ d.rep, s.length < 2 ^ 64) :
    desDet (serDet d) = some (d.origType, d.mark, d.rep) := by
  have hm := serMark_length_le d.mark h2 h3
  have hok : FieldsOK (detFields d) := by
    intro x hx
    simp only [detFields, List.mem_append, List.mem_map, List.mem_singleton] at hx
    rcases hx with (hx | hx) | ⟨s, hs, hx⟩
    · split at hx <;> simp at hx; subst hx; simp [h1]
    · subst hx; simp [hm]
    · subst hx; simp [h4 s hs]
  unfold desDet
  rw [show parseLD (serDet d).length (serDet d) = some (detFields d) from parseLD_serLD _ _ hok (length_le_serLD _)]
  by_cases ho : d.origType = [] <;>
    simp [detFields, lastField, ho, filter_map_fno, Function.comp_def,
      desMark_serMark d.mark (lt_u64_of_lt_u62 h2) (lt_u64_of_lt_u62 h3)]

end ErrModel.Proto
