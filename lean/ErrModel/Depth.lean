import ErrModel.Basic.Bytes
/-
  C16: the stack-depth forwarding graph.  The table (`Generated/DepthFacts.lean`)
  is re-extracted from /repo's source on every run (go/ast, tools/extractors.py);
  here is its semantics.

  Levels are relative to a function's own frame: 0 = the function itself,
  1 = its caller, 2 = the caller's caller …
    * runtime.Callers(skip, …) called from G starts recording at level skip-1 of G
      (skip 0 = Callers itself, 1 = G);
    * runtime.Caller(skip) called from G reports level skip of G;
    * if F calls G(arg) and G(x) records level L(x) relative to G, the same frame is
      level L(arg)-1 relative to F.
-/
namespace ErrModel.Depth

def primCallers : Nat := 1000
def primCaller : Nat := 1001

structure Edge where
  callee : Nat        -- index into the table, or a primitive
  a : Int             -- the depth argument passed is a*depth + b …
  b : Int
  known : Bool        -- … if the extractor recognised the expression
  noDepth : Bool      -- the callee has no depth parameter
  deriving Repr, DecidableEq

structure Fn where
  name : Str
  hasDepth : Bool
  exported : Bool     -- exported constructor / domain function of an API package
  edges : List Edge
  deriving Repr, DecidableEq

/-- first recorded frame of function `i`, as an affine function (A, B) ↦ A*depth + B of its
    depth argument; `none` = unknown construct, disagreeing edges, or recursion. -/
def level (tbl : List Fn) : Nat → Nat → Option (Int × Int)
  | 0, _ => none
  | fuel + 1, i =>
    match tbl[i]? with
    | none => none
    | some f =>
      let edgeLevel (e : Edge) : Option (Int × Int) :=
        if !e.known then none
        else if e.callee = primCallers then some (e.a, e.b - 1)
        else if e.callee = primCaller then some (e.a, e.b)
        else match level tbl fuel e.callee with
          | some (A, B) => if e.noDepth then some (0, B - 1) else some (A * e.a, A * e.b + B - 1)
          | none => none
      match f.edges.map edgeLevel with
      | [] => none
      | l :: rest => if rest.all (fun x => x == l) then l else none

def fuel : Nat := 40

/-- the level recorded by function `i` when called with depth `d` -/
def offset (tbl : List Fn) (i : Nat) (d : Nat) : Option Int :=
  (level tbl fuel i).map (fun ab => ab.1 * (d : Int) + ab.2)

/-- what the property demands of an exported function -/
def expected (f : Fn) : Int × Int := if f.hasDepth then (1, 1) else (0, 1)

def checkFn (tbl : List Fn) (i : Nat) : Bool :=
  match tbl[i]? with
  | none => false
  | some f => !f.exported || level tbl fuel i == some (expected f)

def checkAll (tbl : List Fn) : Bool := (List.range tbl.length).all (checkFn tbl)

/-- indices of the functions that violate the forwarding rule (for the replay) -/
def offenders (tbl : List Fn) : List Nat := (List.range tbl.length).filter (fun i => !checkFn tbl i)

/-- every name of the property's list is present as an exported entry -/
def hasAll (tbl : List Fn) (required : List Str) : Bool :=
  required.all (fun n => tbl.any (fun f => f.exported && f.name == n))

theorem hasAll_length_first (tbl : List Fn) (required : List Str) :
    hasAll tbl required =
      required.all (fun n => tbl.any (fun f => f.exported && (f.name.length == n.length && f.name == n))) := by
  simp only [hasAll, ← beq_length_first]

/-- soundness of the table check, for every depth: an exported function with a depth
    parameter records the (d+1)-th level, one without records level 1 (its caller). -/
theorem offset_of_check (tbl : List Fn) (h : checkAll tbl = true) (i : Nat) (f : Fn)
    (hi : tbl[i]? = some f) (hexp : f.exported = true) (d : Nat) :
    offset tbl i d = some (if f.hasDepth then (d : Int) + 1 else 1) := by
  have hc := all_range_of_getElem? h hi
  simp only [checkFn, hi, hexp, Bool.not_true, Bool.false_or, beq_iff_eq] at hc
  simp only [offset, hc, expected]
  cases f.hasDepth <;> simp

end ErrModel.Depth
