import ErrModel.Accessors
/-
  C19 — Hints and details are aggregated in order, hints de-duplicated.

  `hintsInternal` / `detailsInternal` transliterate the recursive Go loops (recurse
  into the cause, then handle this layer, with the `seen` set); the theorems relate
  them to declarative specifications over the single-cause chain.
  `List.eraseDups` keeps the first occurrence of every element, in order.
-/
namespace ErrModel

/-- non-empty hint of a layer (standard hints of assertion failures, unimplemented
    errors and issue links included, through `layerHint`) -/
def hintNE (n : Err) : Option Str :=
  match layerHint n with
  | some s => if s = [] then none else some s
  | none => none

def detailNE (n : Err) : Option Str :=
  match layerDetail n with
  | some s => if s = [] then none else some s
  | none => none

/-- the hints / details of the layers, innermost first -/
def hintsInner (e : Err) : List Str := (chain e).reverse.filterMap hintNE
def detailsInner (e : Err) : List Str := (chain e).reverse.filterMap detailNE

/-- the `seen`-guarded append loop -/
def addAll (acc : List Str) (l : List Str) : List Str :=
  l.foldl (fun a s => if a.contains s then a else a ++ [s]) acc

theorem addHint_eq (acc : List Str) (n : Err) :
    addHint acc (layerHint n) = addAll acc ((hintNE n).toList) := by
  unfold addHint hintNE
  cases layerHint n with
  | none => rfl
  | some s =>
    by_cases hs : s = []
    · simp only [hs, true_or, if_true]; rfl
    · simp only [hs, false_or, if_false]; rfl

theorem filterMap_toList (n : Err) (f : Err → Option Str) : [n].filterMap f = (f n).toList := by
  cases h : f n <;> simp [h]

theorem hintsInternal_eq (e : Err) (acc : List Str) : hintsInternal e acc = addAll acc (hintsInner e) := by
  fun_induction hintsInternal e acc with
  | case1 id k c hints ih | case2 id c s hints ih =>   -- a wrapper, a secondary layer
    rw [ih, addHint_eq, hintsInner, hintsInner, chain, List.reverse_cons, List.filterMap_append, filterMap_toList]
    exact List.foldl_append.symm
  | case3 e hints h1 h2 =>   -- the last layer of the chain
    rw [addHint_eq, hintsInner, chain, List.reverse_singleton, filterMap_toList]
    all_goals assumption   -- `chain e = [e]` asks that `e` is no wrapper and no secondary layer: `h1`, `h2`

theorem removeAll_snoc {α : Type} [BEq α] (l acc : List α) (x : α) :
    l.removeAll (acc ++ [x]) = (l.removeAll acc).filter (fun b => !b == x) := by
  simp only [List.removeAll, List.filter_filter, List.elem_eq_contains, List.contains_append, List.contains_cons,
    List.contains_nil, Bool.or_false, Bool.not_or, Bool.and_comm]

/-- the loop appends the elements it has not seen, each once, in order of first occurrence -/
theorem addAll_eq : (l acc : List Str) → addAll acc l = acc ++ (l.removeAll acc).eraseDups
  | [], acc => by rw [List.nil_removeAll, List.eraseDups_nil, List.append_nil]; rfl
  | x :: l, acc => by
    rw [addAll, List.foldl_cons, ← addAll, addAll_eq l, List.cons_removeAll]
    cases acc.contains x with
    | true => rfl
    | false =>
      simp only [Bool.false_eq_true, if_false, if_true]
      rw [removeAll_snoc, List.eraseDups_cons, List.append_assoc]; rfl

theorem addAll_eq_eraseDups : (l : List Str) → (acc : List Str) → acc.eraseDups = acc →
    addAll acc l = (acc ++ l).eraseDups
  | l, acc, h => by rw [addAll_eq, List.eraseDups_append, h]

/-- GetAllHints: the non-empty hints of all layers from innermost to outermost, each
    distinct text once, first occurrence wins. -/
theorem C19_hints (e : Err) : getAllHints e = (hintsInner e).eraseDups := by
  rw [getAllHints, hintsInternal_eq, addAll_eq, List.removeAll_nil, List.nil_append]

theorem addDetail_eq (acc : List Str) (n : Err) :
    addDetail acc (layerDetail n) = acc ++ (detailNE n).toList := by
  unfold addDetail detailNE
  cases h : layerDetail n with
  | none => simp
  | some s => by_cases hs : s = [] <;> simp [hs]

theorem detailsInternal_eq (e : Err) (acc : List Str) : detailsInternal e acc = acc ++ detailsInner e := by
  fun_induction detailsInternal e acc with
  | case1 id k c ds ih | case2 id c s ds ih =>   -- a wrapper, a secondary layer
    rw [ih, addDetail_eq, List.append_assoc, detailsInner, detailsInner, chain, List.reverse_cons,
      List.filterMap_append, filterMap_toList]
  | case3 e ds h1 h2 =>   -- the last layer of the chain
    rw [addDetail_eq, detailsInner, chain, List.reverse_singleton, filterMap_toList]
    all_goals assumption   -- `chain e = [e]` asks that `e` is no wrapper and no secondary layer: `h1`, `h2`

/-- GetAllDetails: every non-empty detail, innermost to outermost, no de-duplication. -/
theorem C19_details (e : Err) : getAllDetails e = detailsInner e := by
  unfold getAllDetails
  rw [detailsInternal_eq]; simp

/-- no de-duplication of details: a repeated detail is reported twice -/
theorem C19_details_not_deduplicated :
    getAllDetails (.wrap [1] (.withDetail (b!"d")) (.wrap [2] (.withDetail (b!"d")) (.leaf [3] (.errorString (b!"x")))))
      = [b!"d", b!"d"] := by decide +kernel

/-- …whereas a repeated hint is reported once -/
theorem C19_hints_deduplicated :
    getAllHints (.wrap [1] (.withHint (b!"h")) (.wrap [2] (.withHint (b!"h")) (.leaf [3] (.errorString (b!"x")))))
      = [b!"h"] := by decide +kernel

/-- FlattenHints / FlattenDetails: joined by a line containing only `--`. -/
theorem C19_flatten (e : Err) :
    flattenHints e = joinWith (b!"\n--\n") (getAllHints e) ∧ flattenDetails e = joinWith (b!"\n--\n") (getAllDetails e) :=
  ⟨rfl, rfl⟩

/-- GetAllIssueLinks and GetContextTags list outermost first. -/
theorem C19_links_outermost_first (e : Err) : getAllIssueLinks e = (chain e).filterMap layerIssueLink := rfl
theorem C19_tags_outermost_first (e : Err) : getContextTags e = (chain e).filterMap layerTags := rfl

/-- GetTelemetryKeys is the set union of the keys of all layers. -/
theorem C19_keys_union (e : Err) (k : Str) :
    k ∈ getTelemetryKeys e ↔ ∃ n ∈ chain e, k ∈ layerKeys n := by
  simp [getTelemetryKeys, List.mem_flatMap]

end ErrModel
