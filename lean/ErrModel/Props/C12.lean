import ErrModel.Props.C11
import ErrModel.Props.C15
/-
  C12 — Information declared safe is retained in reports.

  What the library declares PII-free reaches `GetAllSafeDetails` through the per-layer
  `SafeDetails()` (`layerDetails`), is folded into the details of a barrier / secondary
  layer that hides it (`chainFill`), survives any number of hops between knowing
  processes (C11: the per-layer safe details are part of the preserved annotations), and
  the report carries the redacted verbose rendering and one type line per layer.
  The retention of the safe parts *inside* a redactable message by `Redact()` is the
  contract of the redact package (DESIGN: trusted base), checked by the correspondence
  streams and the token oracle.
-/
namespace ErrModel

variable (vf : Err → Str)

/-! ### per layer: the safe fields are the layer's safe details -/

theorem C12_telemetry_keys (id : Ident) (keys : List Str) (c : Err) (P : Proc) :
    layerDetails P vf (.wrap id (.withTelemetry keys) c) = keys := by simp [layerDetails]

theorem C12_domain (id : Ident) (d : Str) (c : Err) (P : Proc) :
    layerDetails P vf (.wrap id (.withDomain d) c) = [d] := by simp [layerDetails]

theorem C12_issue_link (id : Ident) (url det : Str) (c : Err) (P : Proc) :
    layerDetails P vf (.wrap id (.withIssueLink url det) c) = [url, det] := by simp [layerDetails]

theorem C12_unimplemented_link (id : Ident) (msg url det : Str) (P : Proc) :
    layerDetails P vf (.leaf id (.unimplemented msg url det)) = [url, det] := by simp [layerDetails]

theorem C12_safe_details (id : Ident) (l : List Str) (c : Err) (P : Proc) :
    layerDetails P vf (.wrap id (.withSafeDetails l) c) = l := by simp [layerDetails]

theorem C12_stack (id : Ident) (st : Stack) (c : Err) (P : Proc) :
    layerDetails P vf (.wrap id (.withStack st) c) = [printStack st] := by simp [layerDetails]

/-- the message of a library leaf / prefix wrapper: its redacted form (safe parts kept) -/
theorem C12_message (id : Ident) (msg : RStr) (P : Proc) :
    layerDetails P vf (.leaf id (.leafError msg)) = [stripMarkers (redactS msg)] := by simp [layerDetails, redactStrip]

theorem C12_prefix (id : Ident) (p : RStr) (c : Err) (P : Proc) :
    layerDetails P vf (.wrap id (.withPrefix p) c) = [stripMarkers (redactS p)] := by simp [layerDetails, redactStrip]

/-- the context tags attached locally: one detail per tag, the key and a Safe value kept -/
theorem C12_tags (id : Ident) (tags : List (Str × Str)) (kinds : List Nat) (c : Err) (P : Proc) :
    layerDetails P vf (.wrap id (.withContext tags kinds none) c) = redactTags tags kinds := by simp [layerDetails]

/-- an opaque layer (a type the receiver does not know) keeps the details it received -/
theorem C12_opaque_wrapper (id : Ident) (p : Str) (d : Det) (mt : Nat) (hid : List Enc) (c : Err) (P : Proc) :
    layerDetails P vf (.wrap id (.opaqueWrapper p d mt hid) c) = d.rep := by simp [layerDetails]

/-! ### GetAllSafeDetails covers every layer of the chain, with its type name and mark -/

theorem C12_all_details_cover (P : Proc) (e n : Err) (h : n ∈ chain e) :
    (origTypeName n, typeMark P n, layerDetails P vf n) ∈ getAllSafeDetails P vf e := by
  unfold getAllSafeDetails
  exact List.mem_map.mpr ⟨n, h, rfl⟩

/-! ### behind a barrier or in a secondary error: folded into the hiding layer's details -/

theorem fillDetails_mem (mark : TMark) (sd acc : List Str) (d : Str) (h : d ∈ sd) :
    (lit "  " ++ d) ∈ fillDetails mark sd acc := by
  unfold fillDetails
  have hne : sd ≠ [] := by intro h0; rw [h0] at h; simp at h
  simp only [hne, if_false]
  simp only [List.mem_append, List.mem_map]
  exact Or.inr ⟨d, h, rfl⟩

/-- `chainFill` is the loop over the single-cause chain that its source is -/
theorem chainFill_eq (P : Proc) : (x : Err) →
    chainFill P vf x = (chain x).flatMap (fun n => fillDetails (typeMark P n) (layerDetails P vf n) [])
  | .leaf .. | .barrier .. | .multi .. => by simp [chainFill, chain]
  | .wrap _ _ c | .second _ c _ => by simp [chainFill, chain, chainFill_eq P c]

theorem chainFill_mem (P : Proc) (x n : Err) (hn : n ∈ chain x) (d : Str) (hd : d ∈ layerDetails P vf n) :
    (lit "  " ++ d) ∈ chainFill P vf x := by
  rw [chainFill_eq]
  exact List.mem_flatMap.mpr ⟨n, hn, fillDetails_mem _ _ _ _ hd⟩

/-- every safe detail of every layer hidden behind a (locally built) barrier is among the
    barrier's own safe details, indented -/
theorem C12_behind_barrier (P : Proc) (id : Ident) (smsg : RStr) (h n : Err) (hn : n ∈ chain h)
    (d : Str) (hd : d ∈ layerDetails P vf n) :
    (lit "  " ++ d) ∈ layerDetails P vf (.barrier id ⟨smsg, none⟩ h) := by
  simp only [layerDetails, List.mem_append]
  exact Or.inl (chainFill_mem vf P h n hn d hd)

/-- the barrier also carries the redacted verbose rendering of what it hides -/
theorem C12_barrier_rendering (P : Proc) (id : Ident) (smsg : RStr) (h : Err) :
    vf h ∈ layerDetails P vf (.barrier id ⟨smsg, none⟩ h) := by
  simp [layerDetails]

/-- every safe detail of every layer of a secondary error is among the details of the
    layer that attaches it -/
theorem C12_in_secondary (P : Proc) (id : Ident) (c s n : Err) (hn : n ∈ chain s)
    (d : Str) (hd : d ∈ layerDetails P vf n) :
    (lit "  " ++ d) ∈ layerDetails P vf (.second id c s) := by
  simp only [layerDetails]
  exact chainFill_mem vf P s n hn d hd

/-! ### after transfer between processes that know the types -/

/-- the per-layer safe details are the same after any number of hops -/
theorem C12_after_hops (tag k : Nat) (e : Err) (h : stable e = true) :
    ∃ e', hopsFull vf tag k e = some e' ∧ safeChain vf e' = safeChain vf e := by
  obtain ⟨e', h1, ha⟩ := C11_annotations vf tag k e h
  exact ⟨e', h1, by rw [safe_of_anns, safe_of_anns, ha]⟩

/-! ### the report: the redacted rendering, and the type of every layer -/

/-- the report message carries the whole redacted verbose rendering (where Safe() arguments,
    constant messages, keys, domains, links and tag keys are printed outside the markers) -/
theorem C12_report_has_rendering (P : Proc) (trim : List Str) (e : Err) :
    ∃ a b, (buildReport P vf trim e).message = a ++ verboseRedacted e ++ b := by
  obtain ⟨t, ht⟩ := C15_message_head P vf trim e
  exact ⟨srcPrefix P e, compHeader ++ t, by rw [← ht]; simp [List.append_assoc]⟩

/-- the `error types` extra names the type of every layer, multi-cause branches included -/
theorem C12_report_has_types (P : Proc) (trim : List Str) (e n : Err) (hn : n ∈ visitAll e) :
    ∃ a b, (buildReport P vf trim e).types = a ++ typesLine (layerOf P vf trim n) ++ b := by
  rw [C15_types]
  have hm : layerOf P vf trim n ∈ (reportLayers P vf trim e).reverse := by
    simp only [List.mem_reverse, reportLayers]
    exact List.mem_map.mpr ⟨n, hn, rfl⟩
  obtain ⟨s, t, hst⟩ := List.append_of_mem hm
  rw [hst]
  exact ⟨s.flatMap typesLine, t.flatMap typesLine, by simp [List.flatMap_append, List.append_assoc]⟩

end ErrModel
