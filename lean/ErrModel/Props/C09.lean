import ErrModel.Proofs.Regular
import ErrModel.Proofs.TextEq
/-
  C09 — Formatting verbs are mutually consistent.

  Model: `formatVerb` (formatErrorInternal + finishDisplay) on top of the entry engine
  (`ents`, `singleLine`, `fullOutput`).  `fmt`'s own treatment of a string under a
  directive (quoting, hex, padding, truncation) is a parameter of the model: `VOut.viaFmt s`
  says "what fmt prints for the string s under the same directive".
-/
namespace ErrModel

def Spec.plainSV (sp : Spec) : Prop :=
  (sp.verb = vV ∨ sp.verb = vS) ∧ sp.plus = false ∧ sp.sharp = false

/-- `%v` and `%s` (any of the flags '-', ' ', '0', no width or precision) copy the one-line
    rendering as it is -/
theorem C09_v_s_direct (sp : Spec) (e : Err) (h : sp.plainSV) (hw : sp.width = none ∨ sp.width = some 0) (hp : sp.prec = none) :
    formatVerb false sp e = .direct (render false false e) := by
  obtain ⟨hv, hpl, hsh⟩ := h
  rcases hv with hv | hv <;> rcases hw with hw | hw <;>
    simp [formatVerb, finishDisplay, hv, hpl, hsh, hw, hp, vV, vS, vQ, vx, vX]

/-- with a width or a precision the same one-line rendering is handed to fmt under the same
    directive: the result is what fmt prints for that string -/
theorem C09_v_s_width (sp : Spec) (e : Err) (h : sp.plainSV) (hw : (∃ w, sp.width = some w ∧ w > 0) ∨ sp.prec.isSome) :
    formatVerb false sp e = .viaFmt (render false false e) := by
  obtain ⟨hv, hpl, hsh⟩ := h
  rcases hv with hv | hv <;> rcases hw with ⟨w, hw, hw0⟩ | hw <;>
    simp_all [formatVerb, finishDisplay, vV, vS, vQ, vx, vX]

/-- `%q`, `%x`, `%X` with any flags, width and precision: what fmt prints for the one-line
    rendering under the same directive -/
theorem C09_q_x_X (sp : Spec) (e : Err) (hv : sp.verb = vQ ∨ sp.verb = vx ∨ sp.verb = vX) :
    formatVerb false sp e = .viaFmt (render false false e) := by
  rcases hv with hv | hv | hv <;> simp [formatVerb, finishDisplay, hv, vV, vS, vQ, vx, vX]

/-- `%+v` (without '#'): the verbose rendering, through fmt only when a width or precision is given -/
theorem C09_plus_v (sp : Spec) (e : Err) (hv : sp.verb = vV) (hpl : sp.plus = true) (hsh : sp.sharp = false) :
    formatVerb false sp e = .direct (render false true e) ∨ formatVerb false sp e = .viaFmt (render false true e) := by
  simp only [formatVerb, finishDisplay, hv, hpl, hsh]
  simp
  by_cases hp : sp.prec = none
  · split <;> simp [hp]
  · split <;> simp [hp]

/-- `%#v`: the Go-syntax dump -/
theorem C09_sharp_v (sp : Spec) (e : Err) (hv : sp.verb = vV) (hsh : sp.sharp = true) :
    formatVerb false sp e = .goSyntax := by
  simp [formatVerb, hv, hsh]

/-- every other verb: fmt's `%!verb(type)` notation -/
theorem C09_other_verbs (red : Bool) (sp : Spec) (e : Err)
    (h : sp.verb ≠ vV ∧ sp.verb ≠ vS ∧ sp.verb ≠ vQ ∧ sp.verb ≠ vx ∧ sp.verb ≠ vX) :
    formatVerb red sp e = .bad (b!"%!" ++ [sp.verb] ++ b!"(" ++ e.ty.tstr ++ b!")") := by
  obtain ⟨h1, h2, h3, h4, h5⟩ := h
  simp [formatVerb, h1, h2, h3, h4, h5, badVerb]

/-! ### `%v` prints exactly Error()

  `errText` is the model of the `Error()` method (the `error` stream of the correspondence
  check compares it with the real method on every case).  `RegE` (Proofs/Regular.lean) is the domain.
  Outside that domain the two differ by design (the one-line form stops at the first
  newline of a layer; `Error()` does not) and the check decides the rest of the matrix by
  the oracle. -/

/-- for every error over regular text, whatever the depth of the chain, the one-line plain
    rendering is byte for byte the Error() text -/
theorem C09_v_is_error (e : Err) (h : RegE e) : render false false e = errText e :=
  render_v_eq_errText e h

/-- `%v` and `%s` print exactly Error() -/
theorem C09_v_s_print_error (sp : Spec) (e : Err) (h : sp.plainSV) (hw : sp.width = none ∨ sp.width = some 0)
    (hp : sp.prec = none) (hr : RegE e) : formatVerb false sp e = .direct (errText e) := by
  rw [C09_v_s_direct sp e h hw hp, C09_v_is_error e hr]

/-- `%v` and `%s` print the same thing (no regularity needed) -/
theorem C09_v_eq_s (sp sp' : Spec) (e : Err) (h : sp.plainSV) (h' : sp'.plainSV)
    (hw : sp.width = none ∨ sp.width = some 0) (hw' : sp'.width = none ∨ sp'.width = some 0)
    (hp : sp.prec = none) (hp' : sp'.prec = none) : formatVerb false sp e = formatVerb false sp' e := by
  rw [C09_v_s_direct sp e h hw hp, C09_v_s_direct sp' e h' hw' hp']

def exLeaf : Str := [98, 0xC3, 0xB6, 111, 109, 10, 108, 105, 110, 101, 50]   -- "böom\nline2"
/-- the hypotheses are met by a concrete three-layer chain whose text has an inner newline, a
    non-ASCII rune ("böom": C3 B6) and a hidden (hint) layer -/
def exE : Err := .wrap [] (.withPrefix (b!"ctx")) (.wrap [] (.withHint (b!"h\n\n")) (.leaf [] (.errorString exLeaf)))
theorem exE_text : errText exE = b!"ctx: " ++ exLeaf := by
  simp [exE, errText, wrapText, leafText]
  decide
theorem exLeaf_clean : Clean exLeaf :=
  Clean_append (a := [98]) (Clean_of_ascii _ (by decide))
    (Clean.cons [0xC3, 0xB6] [111, 109, 10, 108, 105, 110, 101, 50] ⟨by simp, by decide⟩ (by decide) (by decide) (Clean_of_ascii _ (by decide)))
theorem ctx_clean : Clean (b!"ctx") := Clean_of_ascii _ (by decide)
theorem exE_reg : RegE exE := by
  have e : lexL (b!"ctx") = bytesT (b!"ctx") := by decide
  have hctx : RegR (b!"ctx") := ⟨e ▸ GoodT_bytesT _ ctx_clean, e ▸ LW_bytes _,
    (stripMarkers_clean ctx_clean).symm ▸ ⟨ctx_clean, by decide, by simp [NlOKb, nl], by decide⟩⟩
  simp only [exE, RegE, LeafKind.regular, WrapKind.regular, leafText]
  exact ⟨⟨⟨⟨exLeaf_clean, by decide, by simp [exLeaf, NlOKb, nl], by decide⟩, trivial⟩, trivial⟩, Or.inr hctx⟩
example : render false false exE = b!"ctx: " ++ exLeaf := by rw [C09_v_is_error _ exE_reg, exE_text]

/-- the witness also meets the hypothesis of `C01_engine_text_partial` (the two Error() functions agree on it) -/
theorem exE_EngOK : EngOK exE := ⟨exE_reg.1, exE_reg.1.1, trivial⟩

/-! ### the verbose form: one numbered entry per visible layer, then the types line -/

/-- the visible layers in the order `%+v` numbers them: outermost first -/
def displayLayers (e : Err) : List Err := (postLayers e).reverse

theorem C09_entry_per_layer (red detail : Bool) (e : Err) :
    ((ents red detail e true false 0 []).1.reverse.map (·.tstr)) = (displayLayers e).map tyS := by
  rw [displayLayers, List.map_reverse, List.map_reverse, ents_tstr red detail e true false 0 []]

theorem C09_entry_count (red detail : Bool) (e : Err) :
    (ents red detail e true false 0 []).1.length = (displayLayers e).length := by
  have := congrArg List.length (C09_entry_per_layer red detail e)
  simpa using this

theorem postLayers_ne_nil (e : Err) : postLayers e ≠ [] := by cases e <;> simp [postLayers]

/-- `%+v` = the one-line rendering, then entry (1) for the outermost layer, one `Wraps: (n)` entry for
    each further layer in display order, then the `Error types` line naming the Go type of
    every layer in the same order (as tokens; `render` is `unlex` of this) -/
theorem C09_verbose_structure (red : Bool) (e : Err) :
    ∃ top rest,
      (ents red true e true false 0 []).1.reverse = top :: rest ∧
      renderT red true e =
        singleLine red (ents red true e true false 0 []).1 ++ bytesT (nl :: b!"(1)") ++ printEntry red top ++
        (rest.zipIdx.flatMap (fun (x : Entry × Nat) =>
          bytesT ([nl] ++ indentOf x.1.depth ++ b!"Wraps: (" ++ natStr (x.2 + 2) ++ b!")") ++ printEntry red x.1)) ++
        bytesT (typesLineOf ((displayLayers e).map tyS)) := by
  have ht := C09_entry_per_layer red true e
  cases hr : (ents red true e true false 0 []).1.reverse with
  | nil => exact absurd (by simpa [hr, displayLayers] using ht.symm) (postLayers_ne_nil e)
  | cons top rest => exact ⟨top, rest, rfl, by simp only [renderT, finish, fullOutput, hr, if_true, ← ht]⟩

/-- the `Error types:` line lists `(n) type` for every layer, numbered from 1 -/
theorem typesLineOf_shape (l : List Str) :
    typesLineOf l = nl :: b!"Error types:" ++ (l.zipIdx.flatMap (fun (x : Str × Nat) => b!" (" ++ natStr (x.2 + 1) ++ b!") " ++ x.1)) := rfl

end ErrModel
