import ErrModel.Props.C08
import ErrModel.Props.C13
import ErrModel.Proofs.Regular
import ErrModel.Generated.CtorFacts
/-
  C10 — Error() composes predictably; annotations are transparent; nil stays nil.

  Strings that the real constructors compute through `redact` from a format and
  non-error arguments are inputs of the model constructors (`rs`); the statement
  "Newf yields the fmt-formatted text" is therefore split into
  `text (New… rs) = stripMarkers rs` (here) and the redact contract
  `stripMarkers (redact.Sprintf f args) = fmt.Sprintf f args` (validated against
  the real package by the harness's contract stream; Lean model of it: Engine).
-/
namespace ErrModel

/-- The annotation-only wrappers of the property text: `WrapKind.annotation` (Proofs/Regular.lean, the kinds that
    print nothing of their own) and `pkgWithStack`, which the engine prints through `formatSimple`. -/
def WrapKind.isAnnot : WrapKind → Bool
  | .withStack _ | .withHint _ | .withDetail _ | .withIssueLink .. | .withTelemetry _
  | .withDomain _ | .withContext .. | .withAssertionFailure | .withSafeDetails _ | .withMark ..
  | .withHTTPCode _ | .withGrpcCode _ | .pkgWithStack _ => true
  | _ => false

theorem wrapText_annot (k : WrapKind) (ct : Str) (h : k.isAnnot = true) : wrapText k ct = ct := by
  cases k <;> first | rfl | cases h

theorem C10_annot_text (id : Ident) (k : WrapKind) (e : Err) (h : k.isAnnot = true) :
    text (.wrap id k e) = text e := by
  rw [text, wrapText_annot k _ h]

theorem C10_annot_root (id : Ident) (k : WrapKind) (e : Err) : unwrapAll (.wrap id k e) = unwrapAll e := rfl

theorem C10_annot_is (P : Proc) (id : Ident) (k : WrapKind) (e r : Err) (h : is P e r = some true) :
    is P (.wrap id k e) r = some true := C08_mono P id k e r h

/-- A secondary error is an annotation too. -/
theorem C10_secondary_text (id : Ident) (e s : Err) : text (.second id e s) = text e := rfl
theorem C10_secondary_root (id : Ident) (e s : Err) : unwrapAll (.second id e s) = unwrapAll e := rfl
theorem C10_secondary_is (P : Proc) (id : Ident) (e s r : Err) (h : is P e r = some true) :
    is P (.second id e s) r = some true := is_mono P rfl r h

/-- Message wrappers: exactly `prefix: cause-text`, the cause text alone for an empty prefix. -/
theorem C10_withMessage (n : Nat) (rs : RStr) (e : Err) :
    (cWithMessage n rs (some e)).map text =
      some (if rs = [] then text e else stripMarkers rs ++ colonSp ++ text e) := by
  simp [cWithMessage, text, wrapText, pfx]

theorem C10_wrap (n : Nat) (hasMsg : Bool) (rs : RStr) (st : Stack) (e : Err) :
    (cWrap n hasMsg rs st (some e)).map text =
      some (if hasMsg && !(rs = []) then stripMarkers rs ++ colonSp ++ text e else text e) := by
  cases hasMsg <;> by_cases h : rs = [] <;> simp [cWrap, text, wrapText, pfx, h]

/-- New / Newf / Errorf: the stripped redactable message. -/
theorem C10_new (n : Nat) (rs : RStr) (st : Stack) : (cNew n rs st).map text = some (stripMarkers rs) := by
  simp [cNew, text, wrapText, leafText]

/-- Newf with `%w`: the formatted text replaces the cause's. -/
theorem C10_newf_w (n : Nat) (rs : RStr) (st : Stack) (w : Err) (errArgs : List Err) :
    (cNewfW n rs st w errArgs).map text = some (stripMarkers rs) := by
  simp [cNewfW, text, wrapText, addSecondaries_inv text (fun _ _ _ => rfl)]

/-- Handled / HandledWithMessage: the barrier prints its own (stripped) message; for
    `Handled` that message is `redact.Sprint(err)`, i.e. the hidden error's text
    (redact contract + engine). -/
theorem C10_handled (n : Nat) (rs : RStr) (e : Err) : (cHandled n rs (some e)).map text = some (stripMarkers rs) := by
  simp [cHandled, text]

/-- safe strings without marker runes are stored verbatim: stripping gives them back -/
theorem stripToks_lex_of_markerFree : ∀ (s : Str), markerFree s = true → stripMarkers s = s := by
  intro s
  unfold markerFree stripMarkers
  fun_induction lex s with
  | case1 | case2 => exact fun h => nomatch h   -- an opening, a closing marker
  | case3 x r _ _ ih => exact fun h => congrArg (x :: ·) (ih h)   -- any other byte
  | case4 => exact fun _ => rfl   -- the end

/-! ### the same laws for Error() as the real methods compute it

  `errText` follows the real `Error()` methods: `withPrefix`, `opaqueWrapper` and `joinError`
  print their cause through the formatting engine (`redact.Sprint(err).StripMarkers()`), the
  others concatenate.  For a cause over regular text (`RegE`, Proofs/Regular.lean) the two
  coincide, so the composition law holds of the engine-computed text as well. -/

/-- every wrapper: Error() is the compositional text over the cause's Error() -/
theorem C10_engine_composes (id : Ident) (k : WrapKind) (c : Err) (h : RegE c) :
    errText (.wrap id k c) = wrapText k (errText c) := errText_wrap_reg id k c h

/-- annotation wrappers leave the engine-computed Error() unchanged -/
theorem C10_engine_annot (id : Ident) (k : WrapKind) (c : Err) (h : RegE c) (hk : k.isAnnot = true) :
    errText (.wrap id k c) = errText c := by
  rw [errText_wrap_reg id k c h, wrapText_annot k _ hk]

/-- a message wrapper yields exactly `prefix: cause-text`, the cause text alone for an empty prefix -/
theorem C10_engine_prefix (id : Ident) (p : RStr) (c : Err) (h : RegE c) :
    errText (.wrap id (.withPrefix p) c) = if p = [] then errText c else stripMarkers p ++ colonSp ++ errText c := by
  rw [errText_wrap_reg id _ c h]; simp [wrapText, pfx]

/-- a secondary error does not change Error() -/
theorem C10_engine_secondary (id : Ident) (c s : Err) : errText (.second id c s) = errText c := by
  simp [errText]

/-- a barrier prints its own message, whatever it hides -/
theorem C10_engine_barrier (id : Ident) (m : BarrierMsg) (h h' : Err) :
    errText (.barrier id m h) = errText (.barrier id m h') := by
  simp [errText]

/-! ### nil stays nil -/

theorem C10_nil_withMessage (n : Nat) (rs : RStr) : cWithMessage n rs none = none := rfl
theorem C10_nil_withStack (n : Nat) (st : Stack) : cWithStack n st none = none := rfl
theorem C10_nil_wrap (n : Nat) (b : Bool) (rs : RStr) (st : Stack) : cWrap n b rs st none = none := rfl
theorem C10_nil_annot (n : Nat) (k : WrapKind) : cAnnot n k none = none := rfl
theorem C10_nil_tags (n : Nat) (t : List (Str × Str)) (r : List Nat) : cTags n t r none = none := rfl
theorem C10_nil_handled (n : Nat) (rs : RStr) : cHandled n rs none = none := rfl
theorem C10_nil_mark (P : Proc) (n : Nat) (r : Option Err) : cMark P n none r = some none := rfl
theorem C10_nil_wrapfE (n : Nat) (rs : RStr) (st : Stack) (l : List Err) : cWrapfE n rs st l none = none := rfl
theorem C10_nil_handleAsAssertion (n : Nat) (rs : RStr) (st : Stack) : cHandleAsAssertionFailure n rs st none = none := rfl
theorem C10_nil_newAssertionWrapped (n : Nat) (a : RStr) (b : Bool) (rs : RStr) (st : Stack) :
    cNewAssertionErrorWithWrappedErrf n a b rs st none = none := rfl
theorem C10_combine_nil_left (n : Nat) (e : Option Err) : cCombine n none e = e := rfl
theorem C10_secondary_nil_right (n : Nat) (e : Option Err) : cWithSecondary n e none = e := by
  cases e <;> rfl
theorem C10_secondary_nil_left (n : Nat) (s : Option Err) : cWithSecondary n none s = none := by
  cases s <;> rfl

theorem dropNils_all_none : (es : List (Option Err)) → (∀ e ∈ es, e = none) → dropNils es = []
  | [], _ => rfl
  | e :: r, h => by
    cases h e List.mem_cons_self
    exact dropNils_all_none r fun e he => h e (List.mem_cons_of_mem _ he)

theorem C10_join_only_nils (n : Nat) (st : Stack) (es : List (Option Err)) (h : ∀ e ∈ es, e = none) :
    cJoin n st es = none := by
  simp [cJoin, C13_join_nil n es (dropNils_all_none es h), cWithStack]
theorem C10_leaf_nonnil_new (n : Nat) (rs : RStr) (st : Stack) : (cNew n rs st).isSome = true := rfl
theorem C10_leaf_nonnil_newfE (n : Nat) (rs : RStr) (st : Stack) (l : List Err) : (cNewfE n rs st l).isSome = true := rfl
theorem C10_leaf_nonnil_assertionFailedf (n : Nat) (rs : RStr) (st : Stack) : (cAssertionFailedf n rs st).isSome = true := rfl


/-! ## nil stays nil, over the source's own constructor table

`Generated/CtorFacts.lean` lists every function `(… err error …) error` of /repo's current
source with what its body does with a nil error: an explicit guard first, a pipeline of calls to
other functions of the table, or something the extractor cannot classify.  `CtorProg.nilSafe`
is a verified checker (`CtorProg.nilSafe_sound`). -/

/-- exported functions that take and return an error but are not wrapper constructors, or whose
    nil behaviour the property itself states differently -/
def nilExempt : List Str := [
  b!"errbase.UnwrapOnce", b!"errbase.UnwrapAll",            -- observers (type switch on the error)
  b!".UnwrapOnce", b!".UnwrapAll", b!".Cause", b!".Unwrap",   -- their aliases in the root package
  b!"secondary.CombineErrors", b!".CombineErrors"]           -- CombineErrors(nil, e) = e (stated by the property)

/-- every other exported function of the current source is accepted by the checker -/
theorem C10_ctor_table : CtorProg.checkAll CtorProg.ctors nilExempt = true := by decide +kernel

/-- hence it returns nil when its error argument is nil, whatever the unclassified functions do -/
theorem C10_nil_stays_nil_all (i : Nat) (c : CtorProg.Ctor) (hi : CtorProg.ctors[i]? = some c)
    (hexp : c.exported = true) (hne : nilExempt.contains c.name = false) (unk : Nat → Bool → Bool) :
    CtorProg.eval CtorProg.ctors unk CtorProg.fuel i true = some true := by
  have h := all_range_of_getElem? C10_ctor_table hi
  simp only [hi, hexp, hne, Bool.not_true, Bool.false_or] at h
  exact CtorProg.nilSafe_sound CtorProg.ctors unk CtorProg.fuel i h

/-- the constructors the property names are all in the table (so that turning one of them into
    something the extractor no longer lists cannot make the table check vacuous) -/
def nilRequired : List Str := [
  b!".Wrap", b!".Wrapf", b!".WrapWithDepth", b!".WrapWithDepthf", b!".WithStack", b!".WithStackDepth",
  b!".WithMessage", b!".WithMessagef", b!".WithHint", b!".WithHintf", b!".WithDetail", b!".WithDetailf",
  b!".WithIssueLink", b!".WithTelemetry", b!".WithDomain", b!".WithContextTags", b!".WithAssertionFailure",
  b!".WithSafeDetails", b!".WithSecondaryError", b!".Mark", b!".Handled", b!".HandledWithMessage", b!".Opaque",
  b!".HandledInDomain", b!".HandledInDomainWithMessage", b!".HandleAsAssertionFailure",
  b!".HandleAsAssertionFailureDepth", b!".NewAssertionErrorWithWrappedErrf",
  b!"barriers.Handled", b!"barriers.HandledWithMessage", b!"barriers.HandledWithMessagef", b!"barriers.HandledWithSafeMessage",
  b!"exthttp.WrapWithHTTPCode", b!"extgrpc.WrapWithGrpcCode", b!"markers.Mark", b!"secondary.WithSecondaryError",
  b!"errutil.WrapWithDepth", b!"errutil.WrapWithDepthf", b!"withstack.WithStackDepth", b!"domains.WithDomain"]
theorem C10_ctor_table_complete : CtorProg.hasAll CtorProg.ctors nilRequired = true := by
  rw [CtorProg.hasAll_length_first]; decide +kernel

/-- the checker is not vacuous: it rejects an unguarded constructor and a pipeline through one -/
theorem C10_checker_rejects :
    CtorProg.checkAll [⟨b!"a.F", true, 0, .forward [(1, 0)]⟩, ⟨b!"a.g", false, 0, .none⟩] [] = false ∧
    CtorProg.checkAll [⟨b!"a.F", true, 0, .forward [(1, 1)]⟩, ⟨b!"a.G", true, 0, .guard⟩] [] = false := by decide +kernel

end ErrModel
