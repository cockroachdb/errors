import ErrModel.Proofs.Is
import ErrModel.Props.C01
import ErrModel.Ctor
/-
  C13 — Multi-cause errors behave as a tree.
-/
namespace ErrModel

/-- Is succeeds on a multi-cause error exactly when it succeeds on the error itself
    (identity, its own Is method, its own mark) or on at least one branch. -/
theorem C13_is (P : Proc) (id : Ident) (k : MultiKind) (cs : List Err) (r : Err) :
    isB P (.multi id k cs) r =
      (layerMatch P r (.multi id k cs) || cs.any (fun c => isB P c r)) := by
  rw [isB_eq]; simp [unwrapOnce, unwrapMulti]

/-- IsAny likewise. -/
theorem C13_isAny (P : Proc) (id : Ident) (k : MultiKind) (cs : List Err) (refs : List (Option Err)) :
    isAnyB P (.multi id k cs) refs =
      (dropNone refs).any (fun r => layerMatch P r (.multi id k cs) || cs.any (fun c => isB P c r)) := by
  simp only [isAnyB_eq_any, C13_is]

/-- Unwrap / UnwrapOnce treat multi-cause errors as leaves; UnwrapAll stops there. -/
theorem C13_unwrapOnce (id : Ident) (k : MultiKind) (cs : List Err) : unwrapOnce (.multi id k cs) = none := rfl
theorem C13_unwrapAll (id : Ident) (k : MultiKind) (cs : List Err) : unwrapAll (.multi id k cs) = .multi id k cs := rfl

/-- Join drops nil arguments, returns nil when nothing remains … -/
theorem C13_join_nil (n : Nat) (es : List (Option Err)) (h : dropNils es = []) : cJoinRaw n es = none := by
  simp [cJoinRaw, h]

theorem C13_join_drops_nils (n : Nat) (es : List (Option Err)) (h : dropNils es ≠ []) :
    cJoinRaw n es = some (.multi (lid n 1) .join (dropNils es)) := by
  unfold cJoinRaw
  cases hd : dropNils es with
  | nil => exact absurd hd h
  | cons a r => rfl

/-- … and its Error() is the branch messages joined by newlines. -/
theorem C13_join_text (id : Ident) (cs : List Err) :
    text (.multi id .join cs) = joinWith nlS (cs.map text) := by
  simp [text, multiText, textList_eq_map]

/-- Branch count, order and per-branch shape/text survive any number of hops between
    knowing processes (`shape` lists the branches in order). -/
theorem C13_transfer (vf : Err → Str) (tag k : Nat) (id : Ident) (mk : MultiKind) (cs : List Err)
    (h : stable (.multi id mk cs) = true) :
    ∃ e', hopsFull vf tag k (.multi id mk cs) = some e' ∧
      ∃ l, shape vf e' = .node l (shapeL vf cs) ∧ l.text = text (.multi id mk cs) ∧ l.multi = true := by
  obtain ⟨e', h1, hs, _⟩ := C01_hops vf tag (.multi id mk cs) h k
  exact ⟨e', h1, label vf (.multi id mk cs), by rw [hs]; simp [shape], rfl, rfl⟩

end ErrModel
