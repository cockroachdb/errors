import ErrModel.Generated.UnwrapFacts
import ErrModel.Compat
import ErrModel.Proofs.Is
import ErrModel.Ctor
/-
  C14 — Drop-in compatibility with the standard library and pkg/errors.
-/
namespace ErrModel

mutual
/-- the standard library visits some of the layers this library visits, in the same order -/
theorem stdReach_sublist : (e : Err) → (stdReach e).Sublist (reach e)
  | .leaf .. | .barrier .. => .refl _
  | .wrap id k c => by
    unfold stdReach reach
    split
    · exact (stdReach_sublist c).cons_cons _
    · exact (List.nil_sublist _).cons_cons _
  | .second _ c _ => by unfold stdReach reach; exact (stdReach_sublist c).cons_cons _
  | .multi _ _ cs => by unfold stdReach reach; exact (stdReachL_sublist cs).cons_cons _
theorem stdReachL_sublist : (cs : List Err) → (stdReachL cs).Sublist (reachL cs)
  | [] => .slnil
  | e :: r => by unfold stdReachL reachL; exact (stdReach_sublist e).append (stdReachL_sublist r)
end

theorem stdReach_sub : (e : Err) → ∀ n ∈ stdReach e, n ∈ reach e :=
  fun e _ hn => (stdReach_sublist e).subset hn
theorem stdReachL_sub : (cs : List Err) → ∀ n ∈ stdReachL cs, n ∈ reachL cs :=
  fun cs _ hn => (stdReachL_sublist cs).subset hn

/-- The standard library's errors.Is(e, r) implies this library's Is(e, r), for ANY error
    (also through layers that expose their cause through Cause() only, which the standard
    library cannot traverse). -/
theorem C14_is (P : Proc) (e r : Err) (h : stdIs e r = true) : isB P e r = true := by
  rw [isB_char]
  unfold stdIs at h
  rw [List.any_eq_true] at h ⊢
  obtain ⟨n, hn, hm⟩ := h
  exact ⟨n, stdReach_sub e n hn, by simp [layerMatch, hm]⟩

mutual
theorem stdReach_eq : (e : Err) → stdVisible e = true → stdReach e = reach e
  | .leaf id k, _ => rfl
  | .barrier id m h, _ => rfl
  | .wrap id k c, h => by
    simp only [stdVisible, Bool.and_eq_true] at h
    simp [stdReach, reach, h.1, stdReach_eq c h.2]
  | .second id c s, h => by
    simp only [stdVisible] at h
    simp [stdReach, reach, stdReach_eq c h]
  | .multi id k cs, h => by
    simp only [stdVisible] at h
    simp [stdReach, reach, stdReachL_eq cs h]
theorem stdReachL_eq : (cs : List Err) → stdVisibleL cs = true → stdReachL cs = reachL cs
  | [], _ => rfl
  | e :: r, h => by
    simp only [stdVisibleL, Bool.and_eq_true] at h
    simp [stdReachL, reachL, stdReach_eq e h.1, stdReachL_eq r h.2]
end

/-- As finds the same first match (hence assigns the same value) as the standard
    errors.As, for every target type `T`, on errors whose layers expose Unwrap. -/
theorem C14_as (T : Err → Bool) (e : Err) (h : stdVisible e = true) : libAs T e = stdAs T e := by
  simp [libAs, stdAs, stdReach_eq e h]

/-- …and in general a match of the standard errors.As is also found by this library's As
    at or before it (the library sees at least the same layers, in the same order). -/
theorem C14_as_found (T : Err → Bool) (e : Err) (n : Err) (h : stdAs T e = some n) : (libAs T e).isSome = true := by
  have hn : n ∈ stdReach e ∧ T n = true := by
    unfold stdAs at h
    exact ⟨List.mem_of_find?_eq_some h, List.find?_some h⟩
  unfold libAs
  rw [List.find?_isSome]
  exact ⟨n, stdReach_sub e n hn.1, hn.2⟩

/-- Unwrap agrees with the standard Unwrap on layers that have an Unwrap method, and both
    are nil on multi-cause errors. -/
theorem C14_unwrap (e : Err) (h : hasUnwrap e = true) : unwrapOnce e = stdUnwrap e := by
  simp [stdUnwrap, h]

theorem C14_unwrap_multi (id : Ident) (k : MultiKind) (cs : List Err) :
    unwrapOnce (.multi id k cs) = none ∧ stdUnwrap (.multi id k cs) = none := ⟨rfl, rfl⟩

/-- On a layer that exposes its cause through Cause() only the standard Unwrap is nil while
    this library follows Cause() (its documented behaviour, needed for pkg/errors). -/
theorem C14_unwrap_cause_only (id : Ident) (u : UserTy) (msg : Str) (c : Err) (h : u.expose = 1) :
    stdUnwrap (.wrap id (.user u msg) c) = none ∧ unwrapOnce (.wrap id (.user u msg) c) = some c := by
  simp [stdUnwrap, hasUnwrap, unwrapOnce, h]

/-- Cause / UnwrapAll return the same root as pkg/errors.Cause on single-cause chains whose
    layers implement `causer`. -/
theorem C14_cause : (e : Err) → causeVisible e = true → some (unwrapAll e) = pkgCause e
  | .leaf id k, h => by
    cases k with
    | user u m => simp_all [unwrapAll, pkgCause, causeVisible]
    | _ => rfl
  | .barrier .., _ | .multi .., _ => rfl
  | .second _ c _, h => C14_cause c h
  | .wrap id k c, h => by
    simp only [causeVisible, Bool.and_eq_true] at h
    rw [unwrapAll, pkgCause, if_pos h.1, C14_cause c h.2]

/-- Chains built by this library's constructors are visible to the standard library:
    every library wrapper implements Unwrap (and Cause). -/
theorem C14_library_wrappers_visible (id : Ident) (k : WrapKind) (c : Err)
    (hk : ∀ u m, k ≠ .user u m) : hasUnwrap (.wrap id k c) = true := by
  cases k <;> first | rfl | exact absurd rfl (hk _ _)

theorem C14_library_wrappers_causer (id : Ident) (k : WrapKind) (c : Err)
    (hk : match k with
      | .pathError .. | .linkError .. | .syscallError _ | .fmtWrapError _ | .user .. => False
      | _ => True) : hasCause (.wrap id k c) = true := by
  cases k <;> first | rfl | cases hk

/-! ## The source's own Cause / Unwrap methods (regenerated on every run) -/

/-- every Cause / Unwrap method of the current source is a plain `return recv.field` (the extractor puts a `?`,
    byte 63, in front of the field name of any other body) -/
theorem C14_unwrap_methods_recognised : Unwrap.methods.all (fun m => m.field.head? != some 63) = true := by decide +kernel

/-- a type with both methods returns the same field from both: the library's `Cause()`-following
    traversal and the standard library's `Unwrap()`-following one walk the same chain -/
theorem C14_cause_unwrap_same_field :
    Unwrap.methods.all (fun m => Unwrap.methods.all (fun m' =>
      !(m.pkg == m'.pkg && m.type == m'.type) || m.field == m'.field)) = true := by decide +kernel

end ErrModel
