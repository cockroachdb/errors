import ErrModel.Generated.EffectsFacts
import ErrModel.Obs
/-
  C18 — Read-only use of a shared error is concurrency-safe and deterministic.

  Three parts.
  (1) A generic theorem about concurrent readers: threads whose steps read a shared value
      and write only their own local state compute, under EVERY schedule, exactly what each
      computes alone, and the shared value is never changed (`C18_readers`).  A writer
      breaks it (`C18_writer_counterexample`: the hypothesis is not vacuous).
  (2) The obligations that make the library's observers readers, over facts REGENERATED from
      /repo's source on every run (Generated/EffectsFacts.lean): no method of an error type
      writes through its receiver, error types carry no sync / atomic state, and package-level
      variables are written only by the registration functions (`C18_no_receiver_mutation`,
      `C18_global_writes_are_registrations`, `C18_no_sync_state`).
  (3) In the model every observer is a function of the (immutable) error value: `C18_observers` is (1) for
      threads that each apply one function of any list `ops` of functions of the shared error (`observerOps`
      lists the observers of the other properties).
  What a theorem cannot exhibit — the Go memory model, writes through aliases or inside
  dependencies — is covered by the race-detector leg of the check (partial; see DESIGN).
-/
namespace ErrModel

namespace Readers

/-- `n` threads; thread `i` has a local state and a step function that may read the shared
    value `s` but returns only a new local state -/
structure Cfg (S L : Type) (n : Nat) where
  shared : S
  locals : Fin n → L

variable {S L : Type} {n : Nat}

def stepThread (prog : Fin n → S → L → L) (c : Cfg S L n) (i : Fin n) : Cfg S L n :=
  { c with locals := fun j => if j = i then prog i c.shared (c.locals i) else c.locals j }

/-- run a schedule: the list of the thread that moves at each instant -/
def run (prog : Fin n → S → L → L) (c : Cfg S L n) (sch : List (Fin n)) : Cfg S L n :=
  sch.foldl (stepThread prog) c

/-- `k` steps of one thread alone -/
def solo (f : L → L) : Nat → L → L
  | 0, l => l
  | k + 1, l => solo f k (f l)

theorem run_shared (prog : Fin n → S → L → L) (c : Cfg S L n) (sch : List (Fin n)) :
    (run prog c sch).shared = c.shared := by
  induction sch generalizing c with
  | nil => rfl
  | cons i r ih => simp only [run, List.foldl_cons] at ih ⊢; rw [ih]; rfl

/-- under any schedule, every thread ends where it would end running alone for as many
    steps as the schedule gave it -/
theorem run_local (prog : Fin n → S → L → L) (c : Cfg S L n) (sch : List (Fin n)) (i : Fin n) :
    (run prog c sch).locals i = solo (prog i c.shared) (sch.count i) (c.locals i) := by
  induction sch generalizing c with
  | nil => simp [run, solo]
  | cons j r ih =>
    have h := ih (stepThread prog c j)
    simp only [run, List.foldl_cons] at h ⊢
    rw [h]
    by_cases hji : j = i
    · subst hji
      simp [stepThread, List.count_cons_self, solo]
    · have : (j == i) = false := by simpa using hji
      have hij : ¬ i = j := fun h => hji h.symm
      simp [stepThread, List.count_cons, this, hij]

/-- a step that ignores the local state reaches its value with the first step -/
theorem solo_const (c : L) : ∀ (k : Nat) (l : L), solo (fun _ => c) (k + 1) l = c
  | 0, _ => rfl
  | k + 1, _ => solo_const c k c

end Readers

open Readers in
/-- C18, generic form: concurrent readers are deterministic and leave the shared value alone -/
theorem C18_readers {S L : Type} {n : Nat} (prog : Fin n → S → L → L) (c : Cfg S L n) (sch : List (Fin n)) :
    (run prog c sch).shared = c.shared ∧
    ∀ i, (run prog c sch).locals i = solo (prog i c.shared) (sch.count i) (c.locals i) :=
  ⟨run_shared prog c sch, run_local prog c sch⟩

/-- with a writer the conclusion fails: two threads incrementing a shared counter they also
    copy see schedule-dependent values (so the readers-only premise carries the theorem) -/
theorem C18_writer_counterexample :
    let stepW : Nat × (Fin 2 → Nat) → Fin 2 → Nat × (Fin 2 → Nat) :=
      fun c i => (c.1 + 1, fun j => if j = i then c.1 else c.2 j)
    ([0, 1].foldl stepW (0, fun _ => 0)).2 1 ≠ ([1, 0].foldl stepW (0, fun _ => 0)).2 1 := by
  decide

/-! ### the observers of the model are functions of the error value -/

/-- the observer operations of the other properties, as functions of the shared error -/
def observerOps (trim : List Str) (specs : List Str) (refs : List (Option Err)) : List (Err → String) :=
  [pFmt, pReport trim, pVerbs specs, fun e => pEnc (encode Full vfStub e), fun e => isVec (some e) refs,
   pAcc, pTree, fun e => pCompat e refs, fun e => pOpt pTree (hops 1 e)]

open Readers in
/-- every observer, run concurrently with any others under any schedule on the same error,
    returns what it returns alone -/
theorem C18_observers (e : Err) (ops : List (Err → String)) (sch : List (Fin ops.length)) (i : Fin ops.length)
    (hi : sch.count i ≥ 1) :
    (run (fun j (s : Err) (_ : String) => ops[j] s) ⟨e, fun _ => ""⟩ sch).locals i = ops[i] e ∧
    (run (fun j (s : Err) (_ : String) => ops[j] s) ⟨e, fun _ => ""⟩ sch).shared = e := by
  refine ⟨?_, run_shared _ _ _⟩
  rw [run_local, ← Nat.sub_add_cancel hi]
  exact solo_const _ _ _

/-! ### obligations over the regenerated facts of /repo's source -/

open Effects

/-- no method of an error type assigns through its receiver: error structs are never
    mutated after construction -/
theorem C18_no_receiver_mutation : recvMutations = [] := by decide

/-- error types carry no mutex / once / atomic state (nothing is cached lazily) -/
theorem C18_no_sync_state : syncFields = [] := by decide

/-- the functions allowed to write package-level state: the registration API, meant for init time -/
def registrationFns : List String := [
  "RegisterLeafDecoder", "RegisterWrapperDecoder", "RegisterMultiCauseDecoder", "RegisterLeafEncoder",
  "RegisterWrapperEncoderWithMessageType", "RegisterMultiCauseEncoder", "RegisterSpecialCasePrinter",
  "RegisterTypeMigration", "TestingWithEmptyMigrationRegistry", "SetWarningFn"]

/-- package-level variables are written only by registration functions: no observer
    operation (formatting, encoding, Is/As, safe details, report) writes shared state -/
theorem C18_global_writes_are_registrations :
    globalWrites.all (fun s => registrationFns.contains s.2.1) = true := by decide +kernel

/-- the scan is not vacuous: it saw the library's error types and functions -/
theorem C18_scan_not_vacuous :
    errorTypes.length ≥ 20 ∧ functionsScanned ≥ 300 ∧
    errorTypes.contains "contexttags.withContext" = true ∧ errorTypes.contains "barriers.barrierErr" = true ∧
    errorTypes.contains "errbase.opaqueWrapper" = true ∧ errorTypes.contains "withstack.withStack" = true := by decide +kernel

end ErrModel
