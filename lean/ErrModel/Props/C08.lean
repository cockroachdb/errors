import ErrModel.Proofs.Is
import ErrModel.Ctor
/-
  C08 — Is/IsAny are total, reflexive, monotone and decide mark equivalence.

  Stated for the repaired tree (fix: equalMarks length check, /repo d10628e).
  `is` is the transliteration of markers.Is with `none` as the panic outcome;
  `reach e` is the set of visible layers (single-cause chain, and recursively the
  branches of multi-cause layers); `layerMatch P r n` says that layer `n` is
  identical to `r`, or says so through its own Is method, or has the same
  message text and the same full sequence of (type, extension) marks.
-/
namespace ErrModel

/-- Totality: the transliteration has no reachable panic outcome, for any pair. -/
theorem C08_total (P : Proc) (e r : Err) : (is P e r).isSome = true := rfl

/-- `Is` decides exactly the documented equivalence over the visible layers. -/
theorem C08_char (P : Proc) (e r : Err) :
    isB P e r = (reach e).any (fun n => selfMatch n r || markEquiv (getMark P n) (getMark P r)) :=
  isB_char P r e

/-- `equalMarks` = same message and the same full sequence of type marks:
    a difference in message, in any type of the chain, in chain length or in the
    extension (domain) makes two marks different. -/
theorem C08_marks (m1 m2 : Mark) : equalMarks m1 m2 = (m1.msg = m2.msg && m1.tys = m2.tys) :=
  equalMarks_eq_markEquiv m1 m2

/-- Reflexivity. -/
theorem C08_refl (P : Proc) (e : Err) : is P e e = some true := congrArg some (isB_self P e)

/-- Monotonicity: a layer that exposes a cause (wrapper, secondary-error layer) keeps what its cause matched. -/
theorem is_mono (P : Proc) {e c : Err} (hc : unwrapOnce e = some c) (r : Err) (h : is P c r = some true) :
    is P e r = some true := by
  simp only [is, Option.some.injEq] at h ⊢
  rw [isB_eq, hc, Option.any_some, h, Bool.or_true, Bool.true_or]

theorem C08_mono (P : Proc) (id : Ident) (k : WrapKind) (e r : Err) (h : is P e r = some true) :
    is P (.wrap id k e) r = some true := is_mono P rfl r h

/-- whatever looks through secondary layers does not see the error arguments attached by `addSecondaries` -/
theorem addSecondaries_inv {α : Type} (f : Err → α) (hf : ∀ id e s, f (.second id e s) = f e) (n : Nat) :
    ∀ (l : List Err) (j : Nat) (x : Err), f (addSecondaries n j x l) = f x
  | [], _, _ => rfl
  | _ :: r, j, x => by rw [addSecondaries, addSecondaries_inv f hf n r, hf]

/-- IsAny(e, r1..rn) is the disjunction of Is(e, ri) (nil references are skipped). -/
theorem C08_any (P : Proc) (e : Err) (refs : List (Option Err)) :
    isAnyB P e refs = (dropNone refs).any (fun r => isB P e r) :=
  isAnyB_eq_any P e refs

/-- Is(nil, r) is r == nil; Is(e, nil) is false for non-nil e. -/
theorem C08_nil (P : Proc) (r : Option Err) : isOpt P none r = some (r.isNone) := by
  cases r <;> rfl

theorem C08_nil_ref (P : Proc) (e : Err) : isOpt P (some e) none = some false := rfl

/-- Mark(e, r) matches what e matched, plus every reference equivalent to r
    (and itself, by identity). -/
theorem C08_mark (P : Proc) (id : Ident) (m : Str) (t : List TMark) (e x : Err) :
    isB P (.wrap id (.withMark m t) e) x =
      (selfMatch (.wrap id (.withMark m t) e) x || markEquiv ⟨m, t⟩ (getMark P x) || isB P e x) := by
  rw [isB_eq]; exact Bool.or_false _

theorem C08_mark_ctor (P : Proc) (n : Nat) (e r x : Err) :
    (cMark P n (some e) (some r)).bind (fun o => o.map (fun w => isB P w x)) =
      some (some (selfMatch (.wrap (lid n 0) (.withMark (getMark P r).msg (getMark P r).tys) e) x
        || markEquiv (getMark P r) (getMark P x) || isB P e x)) := by
  simp [cMark, C08_mark]

/-- Marks accumulate: a second `Mark` on top keeps the first one.  `Mark(Mark(e, r1), r2)` matches
    every reference equivalent to `r1` and every reference equivalent to `r2` (in particular `r1`
    and `r2` themselves) and everything `e` matched. -/
theorem C08_mark_accumulates (P : Proc) (id1 id2 : Ident) (m1 m2 : Str) (t1 t2 : List TMark) (e x : Err) :
    isB P (.wrap id2 (.withMark m2 t2) (.wrap id1 (.withMark m1 t1) e)) x =
      (selfMatch (.wrap id2 (.withMark m2 t2) (.wrap id1 (.withMark m1 t1) e)) x ||
        markEquiv ⟨m2, t2⟩ (getMark P x) ||
        (selfMatch (.wrap id1 (.withMark m1 t1) e) x || markEquiv ⟨m1, t1⟩ (getMark P x) || isB P e x)) := by
  rw [C08_mark, C08_mark]

theorem C08_mark_keeps_first (P : Proc) (id1 id2 : Ident) (m1 m2 : Str) (t1 t2 : List TMark) (e x : Err)
    (h : markEquiv ⟨m1, t1⟩ (getMark P x) = true) :
    isB P (.wrap id2 (.withMark m2 t2) (.wrap id1 (.withMark m1 t1) e)) x = true := by
  rw [C08_mark_accumulates]; simp [h]

def uW : UserTy := ⟨b!"x/*x.W", b!"*x.W", 1, [], 1⟩
def cexWrapped : Err := .wrap [1] (.user uW (b!"m")) (.leaf [2] (.errorString (b!"z")))
def cexLeaf : Err := .leaf [3] (.user uW (b!"m"))

/-- Non-vacuity / regression of the repaired defect: on the two witnesses on which the pinned tree
    panicked resp. reported a false match, the repaired `Is` answers `false` both ways. -/
theorem C08_prefix_chain_regression :
    is Full cexWrapped cexLeaf = some false ∧ is Full cexLeaf cexWrapped = some false := by decide +kernel

end ErrModel
