import ErrModel.Proofs.Subset
/-
  C04 — Unknown error types pass through a process losslessly.

  Proved (a) for an intermediary that knows NONE of the types (every node becomes an opaque
  carrier) and ARBITRARY wire messages, and (b) for an intermediary that knows ANY SUBSET of
  the type keys — layer by layer, any mixture of rebuilt and opaque layers — and every
  message a knowing process sends for a stable, wire-faithful error (C04_subset*,
  Proofs/Subset.lean).  Stated for the repaired tree (/repo fixes e44dfc0 withPrefix, 3639298
  withNewMessage, 7cf20c4 join, 5e368e8 barrier details).  Two recorded findings remain
  (known_findings.json): a barrier puts its *redactable* message on the wire, and gRPC
  status errors put only their description there — an unknowing process shows those.
-/
namespace ErrModel

/-- a process that has none of the library's or the user's types registered -/
def KnowsNothing (Q : Proc) : Prop := ∀ k, Q.knows k = false

/-- An opaque leaf / wrapper / multi-cause node re-encodes to exactly the message,
    details, payload and message type it was decoded from, at ANY process. -/
theorem C04_opaque_leaf_exact (P : Proc) (vf : Err → Str) (id : Ident) (msg : Str) (d : Det) (hid : List Enc) :
    encode P vf (.leaf id (.opaqueLeaf msg d hid)) = .leaf msg d hid [] := rfl

theorem C04_opaque_wrapper_exact (P : Proc) (vf : Err → Str) (id : Ident) (p : Str) (d : Det) (mt : Nat)
    (hid : List Enc) (c : Err) :
    encode P vf (.wrap id (.opaqueWrapper p d mt hid) c) = .wrap p d mt hid (encode P vf c) := rfl

theorem C04_opaque_multi_exact (P : Proc) (vf : Err → Str) (id : Ident) (msg : Str) (d : Det) (hid : List Enc)
    (cs : List Err) :
    encode P vf (.multi id (.opaqueLeafCauses msg d hid) cs) = .leaf msg d hid (encodeList P vf cs) := rfl

mutual
/-- what a process that knows none of the types makes of ANY wire message: it keeps every node as an
    opaque stand-in, which re-encodes to the node it came from and shows the text the wire carries -/
theorem unknowing_decode (Q : Proc) (hq : KnowsNothing Q) (vf : Err → Str) :
    (w : Enc) → (path : List Nat) → ∃ e, decode Q path w = some e ∧ encode Q vf e = w ∧ text e = wireText w
  | .leaf msg d hid causes, path => by
    obtain ⟨cs, hcs, rfl⟩ := unknowing_decodeList Q hq vf causes path 2
    refine ⟨_, by rw [decode, hcs, buildLeaf_opaque (.inl (hq _))], ?_, ?_⟩ <;> cases cs <;> rfl
  | .wrap msg d mt hid cause, path => by
    obtain ⟨c, hc, rfl, ht⟩ := unknowing_decode Q hq vf cause (0 :: path)
    exact ⟨_, by rw [decode_wrap, hc]; exact buildWrap_opaque (.inl (hq _)), rfl, by rw [wireText, ← ht]; rfl⟩
theorem unknowing_decodeList (Q : Proc) (hq : KnowsNothing Q) (vf : Err → Str) :
    (l : List Enc) → (path : List Nat) → (i : Nat) → ∃ es, decodeList Q path i l = some es ∧ encodeList Q vf es = l
  | [], _, _ => ⟨[], rfl, rfl⟩
  | w :: r, path, i => by
    obtain ⟨e, he, rfl, _⟩ := unknowing_decode Q hq vf w (i :: path)
    obtain ⟨es, hes, rfl⟩ := unknowing_decodeList Q hq vf r path (i + 1)
    exact ⟨e :: es, by rw [decodeList, he, hes], rfl⟩
end

/-- Re-encoding reproduces exactly the message received — for EVERY wire message (any
    type names, payloads, message types, nesting), at a process that knows none of the
    types; the type names, marks and safe details of every layer are part of it. -/
theorem C04_exact (Q : Proc) (hq : KnowsNothing Q) (vf : Err → Str) :
    (w : Enc) → (path : List Nat) → ∃ e, decode Q path w = some e ∧ encode Q vf e = w := fun w path =>
  have ⟨e, h1, h2, _⟩ := unknowing_decode Q hq vf w path
  ⟨e, h1, h2⟩
/-- Hence a later process reconstructs exactly what it would have reconstructed had it
    received the message directly — after any number of unknowing intermediaries. -/
theorem C04_later (Q R : Proc) (hq : KnowsNothing Q) (vf : Err → Str) (w : Enc) (p1 p2 : List Nat) :
    ∃ e, decode Q p1 w = some e ∧ decode R p2 (encode Q vf e) = decode R p2 w := by
  obtain ⟨e, he, he2⟩ := C04_exact Q hq vf w p1
  exact ⟨e, he, by rw [he2]⟩

theorem C04_text_unknowing (Q : Proc) (hq : KnowsNothing Q) :
    (w : Enc) → (path : List Nat) → ∃ e, decode Q path w = some e ∧ text e = wireText w := fun w path =>
  have ⟨e, h1, _, h3⟩ := unknowing_decode Q hq (fun _ => []) w path
  ⟨e, h1, h3⟩

/-- What the origin puts on the wire for the repaired wrappers is what an unknowing process
    needs to show the origin's text: prefix only for withPrefix, a full message for
    withNewMessage, the joined text for joinError. -/
theorem C04_wire_withPrefix (vf : Err → Str) (id : Ident) (p : RStr) (c : Err) (hp : p ≠ []) (hs : stripMarkers p ≠ []) :
    wireText (encode Full vf (.wrap id (.withPrefix p) c)) = pfx (stripMarkers p) (wireText (encode Full vf c)) ∧
    text (.wrap id (.withPrefix p) c) = pfx (stripMarkers p) (text c) := by
  simp [encode, typeKey, Full_knows, wireText, opaqueText, mtPrefix, mtFull, hs, text, wrapText, hp]

theorem C04_wire_withNewMessage (vf : Err → Str) (id : Ident) (m : RStr) (c : Err) :
    wireText (encode Full vf (.wrap id (.withNewMessage m) c)) = text (.wrap id (.withNewMessage m) c) := by
  simp [encode, typeKey, Full_knows, wireText, opaqueText, mtFull, text, wrapText]

theorem C04_wire_join (vf : Err → Str) (id : Ident) (cs : List Err) :
    wireText (encode Full vf (.multi id .join cs)) = text (.multi id .join cs) := by
  simp [encode, wireText]

/-- the recorded finding, as a theorem about the pinned wire format: a barrier whose message
    has an unsafe part is shown WITH the redaction markers by a process that does not know
    the barrier type -/
theorem C04_barrier_counterexample :
    let e : Err := .barrier [1] ⟨b!"a ‹b›", none⟩ (.leaf [2] (.errorString (b!"x")))
    text e = b!"a b" ∧ wireText (encode Full (fun _ => []) e) = b!"a ‹b›" := by decide


/-- An error sent by a knowing process and received by a process that has ANY subset `S`
    of the type keys registered (each layer rebuilt or carried opaquely, in any mixture):
    decoding succeeds, the Error() text is the origin's, and re-encoding reproduces exactly
    the message received.  `stable`: locally constructible shapes; `faithful`: no layer of the
    two recorded findings (a barrier message with markers, a gRPC status leaf) and no empty
    prefix that prints its separator. -/
theorem C04_subset (S : Str → Bool) (vf : Err → Str) (e : Err) (path : List Nat)
    (h : stable e = true) (hf : faithful e = true) :
    ∃ e', decode (Sub S) path (encode Full vf e) = some e' ∧
      encode (Sub S) vf e' = encode Full vf e ∧ text e' = text e :=
  hopQ_ok S vf e path h hf

/-- … and keeps the origin's cause-tree shape (branch count and order), and at every layer the
    origin's type name and mark (`names`: read off the wire by `wireNames_encode`, which holds of
    every process and every error) -/
theorem C04_subset_names (S : Str → Bool) (vf : Err → Str) (e : Err) (path : List Nat)
    (h : stable e = true) (hf : faithful e = true) :
    ∃ e', decode (Sub S) path (encode Full vf e) = some e' ∧ names Full e' = names Full e :=
  hopQ_names S vf e path h hf

/-- a chain of intermediaries, each knowing its own subset of the types: each decodes the
    message and re-encodes what it decoded -/
def relay (vf : Err → Str) : List (Str → Bool) → Enc → Option Enc
  | [], w => some w
  | S :: r, w => (decode (Sub S) [0] w).bind (fun e => relay vf r (encode (Sub S) vf e))

/-- Through ANY number of intermediaries knowing ANY subsets, the message that leaves the
    last one is the message the origin sent … -/
theorem C04_relay (vf : Err → Str) (e : Err) (h : stable e = true) (hf : faithful e = true) :
    ∀ Ss : List (Str → Bool), relay vf Ss (encode Full vf e) = some (encode Full vf e)
  | [] => rfl
  | S :: r => by
    obtain ⟨e', h1, h2, _⟩ := hopQ_ok S vf e [0] h hf
    simp [relay, h1, h2, C04_relay vf e h hf r]

/-- … so a later process reconstructs exactly the error it would have reconstructed had it
    received the message directly: same decoded value, hence same text, identity (marks),
    annotations and rendering (everything C01, C02, C11 and C13 prove for a direct hop). -/
theorem C04_subset_later (R : Proc) (vf : Err → Str) (e : Err) (h : stable e = true) (hf : faithful e = true)
    (Ss : List (Str → Bool)) (p : List Nat) :
    (relay vf Ss (encode Full vf e)).bind (decode R p) = decode R p (encode Full vf e) := by
  simp [C04_relay vf e h hf Ss]

/-- and the text every intermediary shows is the origin's -/
theorem C04_subset_text_at_each (vf : Err → Str) (e : Err) (h : stable e = true) (hf : faithful e = true)
    (Ss : List (Str → Bool)) (S : Str → Bool) :
    ∃ e', (relay vf Ss (encode Full vf e)).bind (decode (Sub S) [0]) = some e' ∧ text e' = text e := by
  obtain ⟨e', h1, _, h3⟩ := hopQ_ok S vf e [0] h hf
  exact ⟨e', by simp [C04_relay vf e h hf Ss, h1], h3⟩

/-- non-vacuity: a prefix wrapper over a hint over a join of a leaf and a handled error, received
    by a process that knows the prefix and join types but none of the others -/
def exSub : Err :=
  .wrap [1] (.withPrefix (b!"ctx")) (.wrap [2] (.withHint (b!"h"))
    (.multi [3] .join [.leaf [4] (.errorString (b!"a")), .barrier [5] ⟨b!"gone", none⟩ (.leaf [6] (.errorString (b!"x")))]))
def exS : Str → Bool := fun k => k = k_withPrefix || k = k_join
theorem exSub_hyps : stable exSub = true ∧ faithful exSub = true := by decide
theorem exSub_mixed :
    (decode (Sub exS) [0] (encode Full (fun _ => []) exSub)).map (fun e => (text e, (chain e).map (fun l => origTypeName l == (typeMark Full l).fam)))
      = some (b!"ctx: a\ngone", [true, true, true]) := by decide +kernel

/-- why `faithful` is needed for exact re-encoding too: a process that knows the join type but
    not the barrier type re-sends the join with the markers the barrier's wire message showed it
    (consequence of recorded finding D7) -/
theorem C04_join_over_unknown_barrier_counterexample :
    let e : Err := .multi [1] .join [.barrier [2] ⟨b!"a ‹b›", none⟩ (.leaf [3] (.errorString (b!"x")))]
    let S : Str → Bool := fun k => k = k_join
    stable e = true ∧ faithful e = false ∧
    (decode (Sub S) [0] (encode Full (fun _ => []) e)).map (fun e' => decide (wireText (encode (Sub S) (fun _ => []) e') = wireText (encode Full (fun _ => []) e))) = some false := by
  decide +kernel

end ErrModel
