import ErrModel.Props.C06
import ErrModel.Accessors
import ErrModel.Proofs.Outside
/-
  C03 — Unsafe strings never reach PII-free outputs.

  Proved here about the model: (1) the safe details of a layer, and so `GetSafeDetails`,
  `GetAllSafeDetails` and the reportable payload placed on the wire, do not depend on the
  fields that enter through a purely unsafe channel (a hint, a detail, the message of a
  non-library error, a path, a Mark reference's message, the message of an opaque leaf);
  (2) the reportable payload on the wire *is* the layer's safe details; (3) in a redactable
  rendering an entry that did not come from a SafeFormatError method is always passed
  through `redact.EscapeBytes`.
  (4) `C03_unsafe_enclosed`: in the redactable rendering of every well-formed error, through the write
  machine and the layouts, every byte written from an unsafe source lies between markers; after
  `Redact()` none is left (`C03_redacted_*_has_no_unsafe_byte`).
  (5) For everything that mixes safe and unsafe parts (a message built by `redact.Sprintf`, a
  context tag, an escaped foreign message) the PII-free form is `Redact()` of a redactable
  string.  `C03_redact_*`: Redact keeps the OUTSIDE view (the bytes not between markers) and
  turns every enclosure into `×`.  `C03_sprintf_outside` / `C03_sprintf_noninterference`:
  in the redact buffer model the outside view of `Sprintf` consists of the safe pieces, the
  outside views of the redactable pieces, the NEWLINES of the unsafe pieces and `?` marks —
  of nothing else an unsafe piece contains, for all byte contents; `C03_escapeBytes_outside`:
  the outside view of `EscapeBytes(s)` is the newlines of `s`.
-/
namespace ErrModel

variable (P : Proc) (vf : Err → Str)

/-! ### safe details are independent of the purely unsafe fields -/

theorem C03_hint_not_in_details (id : Ident) (h h' : Str) (c : Err) :
    layerDetails P vf (.wrap id (.withHint h) c) = layerDetails P vf (.wrap id (.withHint h') c) := by
  unfold layerDetails; rfl

theorem C03_detail_not_in_details (id : Ident) (h h' : Str) (c : Err) :
    layerDetails P vf (.wrap id (.withDetail h) c) = layerDetails P vf (.wrap id (.withDetail h') c) := by
  unfold layerDetails; rfl

theorem C03_mark_message_not_in_details (id : Ident) (m m' : Str) (t : List TMark) (c : Err) :
    layerDetails P vf (.wrap id (.withMark m t) c) = layerDetails P vf (.wrap id (.withMark m' t) c) := by
  unfold layerDetails; rfl

theorem C03_foreign_message_not_in_details (id : Ident) (m m' : Str) :
    layerDetails P vf (.leaf id (.errorString m)) = layerDetails P vf (.leaf id (.errorString m')) := by
  unfold layerDetails; rfl

theorem C03_pkg_message_not_in_details (id : Ident) (m m' : Str) (st : Stack) :
    layerDetails P vf (.leaf id (.pkgFundamental m st)) = layerDetails P vf (.leaf id (.pkgFundamental m' st)) := by
  unfold layerDetails; rfl

theorem C03_path_not_in_details (id : Ident) (op p p' : Str) (c : Err) :
    layerDetails P vf (.wrap id (.pathError op p) c) = layerDetails P vf (.wrap id (.pathError op p') c) := by
  unfold layerDetails; rfl

theorem C03_link_paths_not_in_details (id : Ident) (op a b a' b' : Str) (c : Err) :
    layerDetails P vf (.wrap id (.linkError op a b) c) = layerDetails P vf (.wrap id (.linkError op a' b') c) := by
  unfold layerDetails; rfl

theorem C03_unimplemented_message_not_in_details (id : Ident) (m m' url det : Str) :
    layerDetails P vf (.leaf id (.unimplemented m url det)) = layerDetails P vf (.leaf id (.unimplemented m' url det)) := by
  unfold layerDetails; rfl

theorem C03_opaque_message_not_in_details (id : Ident) (m m' : Str) (d : Det) (hid : List Enc) :
    layerDetails P vf (.leaf id (.opaqueLeaf m d hid)) = layerDetails P vf (.leaf id (.opaqueLeaf m' d hid)) := by
  unfold layerDetails; rfl

theorem C03_opaque_prefix_not_in_details (id : Ident) (p p' : Str) (d : Det) (mt : Nat) (hid : List Enc) (c : Err) :
    layerDetails P vf (.wrap id (.opaqueWrapper p d mt hid) c) = layerDetails P vf (.wrap id (.opaqueWrapper p' d mt hid) c) := by
  unfold layerDetails; rfl

/-- the cause below a wrapper never contributes to the wrapper's own details -/
theorem C03_details_ignore_cause (id : Ident) (k : WrapKind) (c c' : Err) :
    layerDetails P vf (.wrap id k c) = layerDetails P vf (.wrap id k c') := by
  unfold layerDetails; rfl

/-! ### the reportable payload on the wire is the layer's safe details -/

def Enc.rep : Enc → List Str
  | .leaf _ d _ _ => d.rep
  | .wrap _ d _ _ _ => d.rep

theorem C03_wire_reportable_leafError (id : Ident) (msg : RStr) :
    (encode P vf (.leaf id (.leafError msg))).rep = layerDetails P vf (.leaf id (.leafError msg)) := by
  unfold encode
  simp only []
  split <;> simp [Enc.rep, detOf]

theorem C03_wire_reportable_barrier (id : Ident) (m : BarrierMsg) (h : Err) :
    (encode P vf (.barrier id m h)).rep = layerDetails P vf (.barrier id m h) := by
  unfold encode
  simp only []
  split <;> simp [Enc.rep, detOf]

theorem C03_wire_reportable_foreign_leaf (id : Ident) (m : Str) :
    (encode P vf (.leaf id (.errorString m))).rep = [] := by
  unfold encode
  simp [Enc.rep, detOf, layerDetails]

theorem C03_wire_reportable_hint (id : Ident) (h : Str) (c : Err) :
    (encode P vf (.wrap id (.withHint h) c)).rep = [] := by
  unfold encode
  simp only []
  split <;> simp [Enc.rep, detOf, layerDetails]

/-- a path error sends only the operation name as reportable -/
theorem C03_wire_reportable_path (id : Ident) (op p : Str) (c : Err) (hk : P.knows (typeKey P (.wrap id (.pathError op p) c)) = true) :
    (encode P vf (.wrap id (.pathError op p) c)).rep = [op] := by
  unfold encode
  simp [Enc.rep, detOf, hk]

/-! ### rendering: what is not produced by a safe printer is escaped and enclosed -/

theorem C03_unsafe_entries_enclosed (en : Entry) (h : en.redactable = false) :
    escIfNeeded true en en.head = escapeBytesT (stripT en.head) ∧ escIfNeeded true en en.details = escapeBytesT (stripT en.details) :=
  ⟨C06_unsafe_entry_escaped en _ h, C06_unsafe_entry_escaped en _ h⟩

/-- a foreign leaf (not one of the safe sentinels) is collected as a non-redactable entry -/
theorem C03_foreign_leaf_entry (red detail : Bool) (id : Ident) (m : Str) (o wd : Bool) (d : Nat) (ls : Stack)
    (hs : isAnyB Full (.leaf id (.errorString m)) (specialSentinels.map some) = false) :
    ∀ en ∈ (ents red detail (.leaf id (.errorString m)) o wd d ls).1, en.redactable = false := by
  unfold ents
  simp only [leafScript, hs]
  intro en hen
  simp only [Bool.false_eq_true, if_false, List.mem_singleton] at hen
  subst hen
  rw [C06_redactable_flag]; rfl

/-! ### the whole rendering: what was written from an unsafe source is enclosed, and gone after Redact() -/

/-- In the model every byte written from an unsafe source carries the ghost label `Tok.u`: the
    arguments of `Printf`/`Print` that are not `Safe` (unsafe mode of the redact buffer), everything a
    non-SafeFormatter layer writes (`POp.plain`: hints, details, texts of foreign errors, prefixes
    extracted from foreign wrappers), and what is between markers in a stored redactable string.
    `LW` demands that a labelled byte occurs only between markers.  So: in the redactable rendering
    (`%v`, `%s`, `%+v`) of EVERY well-formed error — any depth, hidden and multi-cause parts
    included, any string contents — every unsafe byte is enclosed. -/
theorem C03_unsafe_enclosed (e : Err) (h : WFE e) (detail : Bool) : LW (renderT true detail e) :=
  renderT_LW detail e h

/-- a labelled byte at the outside is impossible in a well-formed string -/
theorem C03_label_means_inside (a b : Toks) (c : UInt8) (st : Bool) (h : lw false (a ++ Tok.u c :: b) = some st) :
    lw false a = some true := by
  rw [lw_append] at h
  cases ha : lw false a with
  | none => rw [ha] at h; simp at h
  | some s => rw [ha] at h; cases s <;> simp [lw] at h ⊢

/-- and after `Redact()` no unsafe byte is left at all: in `redact.Sprintf("%+v", err).Redact()`
    (what the Sentry report, the barrier details and `%v` of a redacted log line are made of) -/
theorem C03_redacted_rendering_has_no_unsafe_byte (e : Err) (h : WFE e) (detail : Bool) :
    ∀ x ∈ redactT (assembleT [.preT (renderT true detail e)]), ∀ c, x ≠ Tok.u c :=
  noU_redactT _ (C06_wellformed_sprintf e h detail)

/-- likewise for any message assembled by `redact.Sprintf` (the stored messages, prefixes and tags,
    whose `Redact()` forms are the safe details) -/
theorem C03_redacted_sprintf_has_no_unsafe_byte (segs : List SegT) (hs : ∀ g ∈ segs, g.ok) :
    ∀ x ∈ redactT (assembleT segs), ∀ c, x ≠ Tok.u c :=
  noU_redactT _ (LW_assembleT segs hs)

theorem C03_redacted_escapeBytes_has_no_unsafe_byte (s : Str) :
    ∀ x ∈ redactT (escapeBytesT s), ∀ c, x ≠ Tok.u c :=
  noU_redactT _ (LW_escapeBytesT s)

/-! ### Redact() and the outside view -/

/-- Redact keeps exactly the bytes that are outside the markers -/
theorem C03_redact_keeps_outside (t : Toks) (h : LW t) : outs false (redactT t) = outs false t :=
  outs_redactT t h

/-- and every enclosure of the redacted string is `×`: nothing of what was enclosed remains -/
theorem C03_redact_erases_inside (t : Toks) (h : LW t) :
    ∃ n, ins false (redactT t) = (List.replicate n timesB).flatten :=
  ins_redactT t h

/-- the outside view of what `redact.Sprintf` returns: safe pieces (marker runes escaped), outside
    views of redactable pieces, newlines of unsafe pieces, `?` marks -/
theorem C03_sprintf_outside (segs : List SegT) (hs : ∀ g ∈ segs, g.ok) :
    OutSet segs (outs false (assembleT segs)) :=
  outs_assembleT segs hs

/-- non-interference: two Sprintf calls that differ only in their unsafe arguments (with the same
    newlines) have their outside views in the same set -/
theorem C03_sprintf_noninterference (a b : List SegT) (ha : ∀ g ∈ a, g.ok) (hb : ∀ g ∈ b, g.ok)
    (hs : SameSafe a b) :
    OutSet b (outs false (assembleT a)) ∧ OutSet b (outs false (assembleT b)) :=
  outs_assembleT_noninterference a b ha hb hs

/-- an unsafe argument can be replaced by any other with the same newlines without changing
    the set of possible outside views; in particular an argument without newlines contributes
    nothing at all -/
theorem C03_arg_invisible (pre post : List SegT) (s s' : Str) (h : nlsOf s = nlsOf s')
    (v : Str) (hv : OutSet (pre ++ .arg s :: post) v) : OutSet (pre ++ .arg s' :: post) v :=
  OutSet_sameSafe (SameSafe_at pre post s s' h) v hv

/-- the outside view of `redact.EscapeBytes(s)` is the newlines of `s`: a non-redactable entry
    contributes only line breaks to a redactable rendering -/
theorem C03_escapeBytes_outside (s : Str) : outs false (escapeBytesT s) = nlsOf s :=
  outs_escapeBytesT s

end ErrModel
