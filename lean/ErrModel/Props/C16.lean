import ErrModel.Generated.DepthFacts
/-
  C16 — Stacks and package domains are attributed to the right caller (partial).

  `depthFacts` is re-extracted from /repo's source on every run.  The theorems say:
  for EVERY depth d, every exported stack-capturing / domain-computing function of
  the root package, errutil, withstack and domains records (resp. names the package
  of) the (d+1)-th level above its own frame when it has a depth parameter, and its
  caller (level 1) otherwise.  Partial: the Go runtime's stack walker and inliner are
  not modelled; the harness observes them (every function × d ∈ 0..3 through
  non-inlinable helper chains spread over several packages).
-/
namespace ErrModel.Depth

/-- the forwarding arithmetic of every exported function checks out -/
theorem C16_table : checkAll depthFacts = true := by decide +kernel

/-- …hence, for every depth `d` (not just 0..3): -/
theorem C16_all (i : Nat) (f : Fn) (hi : depthFacts[i]? = some f) (hexp : f.exported = true) (d : Nat) :
    offset depthFacts i d = some (if f.hasDepth then (d : Int) + 1 else 1) :=
  offset_of_check depthFacts C16_table i f hi hexp d

/-- the functions the property lists are all present (so that removing the stack
    capture from one of them cannot make the table check vacuous) -/
def required : List Str := [
  b!"github.com/cockroachdb/errors.New", b!"github.com/cockroachdb/errors.NewWithDepth",
  b!"github.com/cockroachdb/errors.Newf", b!"github.com/cockroachdb/errors.NewWithDepthf",
  b!"github.com/cockroachdb/errors.Errorf",
  b!"github.com/cockroachdb/errors.Wrap", b!"github.com/cockroachdb/errors.WrapWithDepth",
  b!"github.com/cockroachdb/errors.Wrapf", b!"github.com/cockroachdb/errors.WrapWithDepthf",
  b!"github.com/cockroachdb/errors.WithStack", b!"github.com/cockroachdb/errors.WithStackDepth",
  b!"github.com/cockroachdb/errors.AssertionFailedf", b!"github.com/cockroachdb/errors.AssertionFailedWithDepthf",
  b!"github.com/cockroachdb/errors.HandleAsAssertionFailure", b!"github.com/cockroachdb/errors.HandleAsAssertionFailureDepth",
  b!"github.com/cockroachdb/errors.NewAssertionErrorWithWrappedErrf",
  b!"github.com/cockroachdb/errors.Join", b!"github.com/cockroachdb/errors.JoinWithDepth",
  b!"github.com/cockroachdb/errors.PackageDomain", b!"github.com/cockroachdb/errors.PackageDomainAtDepth",
  b!"github.com/cockroachdb/errors/errutil.New", b!"github.com/cockroachdb/errors/errutil.NewWithDepth",
  b!"github.com/cockroachdb/errors/errutil.Newf", b!"github.com/cockroachdb/errors/errutil.NewWithDepthf",
  b!"github.com/cockroachdb/errors/errutil.Wrap", b!"github.com/cockroachdb/errors/errutil.WrapWithDepth",
  b!"github.com/cockroachdb/errors/errutil.Wrapf", b!"github.com/cockroachdb/errors/errutil.WrapWithDepthf",
  b!"github.com/cockroachdb/errors/errutil.AssertionFailedf", b!"github.com/cockroachdb/errors/errutil.AssertionFailedWithDepthf",
  b!"github.com/cockroachdb/errors/errutil.HandleAsAssertionFailure", b!"github.com/cockroachdb/errors/errutil.HandleAsAssertionFailureDepth",
  b!"github.com/cockroachdb/errors/errutil.NewAssertionErrorWithWrappedErrf",
  b!"github.com/cockroachdb/errors/errutil.NewAssertionErrorWithWrappedErrDepthf",
  b!"github.com/cockroachdb/errors/errutil.JoinWithDepth",
  b!"github.com/cockroachdb/errors/withstack.WithStack", b!"github.com/cockroachdb/errors/withstack.WithStackDepth",
  b!"github.com/cockroachdb/errors/domains.PackageDomain", b!"github.com/cockroachdb/errors/domains.PackageDomainAtDepth",
  b!"github.com/cockroachdb/errors/domains.New", b!"github.com/cockroachdb/errors/domains.Handled"]

theorem C16_complete : hasAll depthFacts required = true := by
  rw [hasAll_length_first]; decide +kernel

end ErrModel.Depth
