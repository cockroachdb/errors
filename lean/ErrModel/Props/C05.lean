import ErrModel.Transport
import ErrModel.Generated.DecoderFacts
/-
  C05 — Decoding is total: no panic, always an error.
  Stated for the repaired tree (/repo fixes 1604c49 barriers, 846f5b2 exthttp/extgrpc,
  c4d044c markers, 032c57f contexttags).  `decode` is the transliteration of
  DecodeError with `none` as the panic outcome (an unchecked type assertion, an
  unguarded index); every `Enc` is structurally complete by construction.
-/
namespace ErrModel

/-- every exit of `buildLeaf` is an error, the opaque fallback `opq` (an error once the causes are
    decoded), `payloadErr` (an error or `opq`) or built from the decoded hidden error -/
theorem buildLeaf_some (P : Proc) (path : List Nat) (msg : Str) (d : Det) (hid : List Enc)
    (hd : Option Err) (cs : List Err) (hh : hid ≠ [] → hd.isSome = true) :
    (buildLeaf P path msg d hid hd (some cs)).isSome = true := by
  unfold buildLeaf
  extract_lets key opq payloadErr
  have hopq : opq.isSome = true := by cases cs <;> rfl
  have hpay : payloadErr.isSome = true := by unfold payloadErr; split <;> first | rfl | exact hopq
  -- one goal per exit, in the order of the docstring; `contradiction` is for the branches a `match` has ruled out
  repeat' split
  all_goals first | rfl | exact hopq | exact hpay | contradiction | (rw [Option.isSome_map]; exact hh (List.cons_ne_nil _ _))

theorem buildWrap_some (P : Proc) (path : List Nat) (msg : Str) (d : Det) (mt : Nat) (hid : List Enc)
    (hd : Option Err) (c : Err) (hh : hid ≠ [] → hd.isSome = true) :
    (buildWrap P path msg d mt hid hd c).isSome = true := by
  unfold buildWrap
  extract_lets key opq
  -- one goal per exit of `buildWrap`: an error written out (`rfl`), or one built from the decoded hidden error
  repeat' split
  all_goals first | rfl | (rw [Option.isSome_map]; exact hh (List.cons_ne_nil _ _))

mutual
/-- DecodeError never panics, whatever the type names, messages, reportable strings,
    message type and payload; it always returns an error. -/
theorem C05_total (P : Proc) : (w : Enc) → (path : List Nat) → (decode P path w).isSome = true
  | .leaf msg d hid causes, path => by
    obtain ⟨cs, hcs⟩ := Option.isSome_iff_exists.mp (C05_total_list P causes path 2)
    simp only [decode, hcs]
    exact buildLeaf_some P path msg d hid _ cs (fun h => C05_total_hid P hid path h)
  | .wrap msg d mt hid cause, path => by
    obtain ⟨c, hc⟩ := Option.isSome_iff_exists.mp (C05_total P cause (0 :: path))
    simp only [decode, hc]
    exact buildWrap_some P path msg d mt hid _ c (fun h => C05_total_hid P hid path h)
theorem C05_total_hid (P : Proc) : (hid : List Enc) → (path : List Nat) → hid ≠ [] →
    (decodeHid P path hid).isSome = true
  | [], _, h => absurd rfl h
  | a :: _, path, _ => by simp only [decodeHid]; exact C05_total P a (1 :: path)
theorem C05_total_list (P : Proc) : (l : List Enc) → (path : List Nat) → (i : Nat) →
    (decodeList P path i l).isSome = true
  | [], _, _ => rfl
  | e :: r, path, i => by
    obtain ⟨x, hx⟩ := Option.isSome_iff_exists.mp (C05_total P e (i :: path))
    obtain ⟨xs, hxs⟩ := Option.isSome_iff_exists.mp (C05_total_list P r path (i + 1))
    simp [decodeList, hx, hxs]
end

/-- in particular every hop succeeds, for every process pair -/
theorem C05_hop_total (P Q : Proc) (vf : Err → Str) (tag : Nat) (e : Err) : (hop P Q vf tag e).isSome = true :=
  C05_total Q _ _

def cexDet (key : Str) : Det := ⟨key, ⟨key, []⟩, [], .none⟩

/-- regression of the repaired decoders: the wires on which the pinned tree panicked -/
theorem C05_barrier_regression :
    (decode Full [1] (.leaf (b!"m") (cexDet k_barrier) [] [])).isSome = true := C05_total ..
theorem C05_http_regression :
    (decode Full [1] (.wrap [] (cexDet k_withHTTPCode) 0 [] (.leaf (b!"c") (cexDet k_errorString) [] []))).isSome = true := C05_total ..


/-! ## The registered decoders, regenerated from the source on every run

`Generated/DecoderFacts.lean` holds one straight-line program per function registered with
`Register{Leaf,Wrapper,MultiCause}Decoder` in /repo's current source (payload assertions with
their comma-ok guard, length guards, constant indices).  `DecProg.safe` is a verified checker
(`DecProg.safe_sound`): an accepted program never panics, whatever the payload's type and
whatever the lengths of the detail and payload-field slices. -/

/-- every registered decoder passes the checker (re-decided against the current source) -/
theorem C05_decoder_facts : DecProg.decoders.all (fun d => DecProg.safe [] d.ops) = true := by decide +kernel

/-- … and so does every additional path of a decoder written as `if x, ok := payload.(*T); ok { … }` -/
theorem C05_decoder_paths : DecProg.decoderPaths.all (fun d => DecProg.safe [] d.ops) = true := by decide

/-- hence no registered decoder panics on any payload / detail fault -/
theorem C05_registered_decoders_never_panic (d : DecProg.Decoder) (hd : d ∈ DecProg.decoders) (env : DecProg.Env) :
    DecProg.run env d.ops ≠ .panic := by
  have h := List.all_eq_true.mp C05_decoder_facts d hd
  exact DecProg.safe_sound env d.ops [] (by intro p hp; cases hp) h

/-- the decoder families of the model (`classify`), one per registered decoder -/
def decoderClasses : List KeyClass :=
  [.errorString, .deadline, .errno, .leafError, .unimplemented, .barrier, .barrierPrev, .join, .grpcStatus, .gogoStatus,
   .pkgWithMessage, .pathError, .linkError, .syscallError, .withPrefix, .withNewMessage, .withHint, .withDetail, .withMark,
   .withSecondary, .withContext, .withHTTPCode, .withGrpcCode, .withDomain, .withIssueLink, .withTelemetry,
   .withAssertionFailure, .withSafeDetails]

/-- the model has a decoder family for every decoder the source registers (a decoder added to
    the library without a model counterpart breaks this obligation) -/
theorem C05_model_covers_registered_decoders : DecProg.decoders.length = decoderClasses.length := by decide +kernel

/-- the checker is not vacuous: it rejects the two defect shapes that were repaired (an unchecked
    assertion; an index beyond the guarded length) and accepts a nested length test -/
theorem C05_checker_rejects_unchecked : DecProg.safe [] [.assert false] = false := by decide
theorem C05_checker_rejects_short_guard : DecProg.safe [] [.assert true, .require 0 2, .index 0 2 0] = false := by decide
theorem C05_checker_panics_witness :
    DecProg.run ⟨true, fun _ => 2⟩ [.assert true, .require 0 2, .index 0 2 0] = .panic := by decide
theorem C05_checker_accepts_nested : DecProg.safe [] [.index 0 0 1, .index 0 1 2] = true := by decide

end ErrModel
