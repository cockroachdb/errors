import ErrModel.Proofs.Subset
import ErrModel.Proofs.TextEq
import ErrModel.ProtoHop
import ErrModel.ProtoHid
/-
  C01 — Error text and cause-tree structure survive network transfer.

  `shape vf e` is the visible cause tree (single-cause chain and multi-cause
  branches) with the Error() text at every node.  `stable e` is the decidable
  well-formedness of the trees the property quantifies over (section "Stability"
  of ErrModel/Shape.lean): foreign types are not registered, opaque nodes carry
  families without a decoder, and a foreign wrapper's text is not exactly
  ": " ++ cause (a wrapper with an empty message of its own — outside the
  property's "regular text").  Every kind of the library, stdlib, pkg/errors and
  OS error types is covered by the case analysis in Proofs/Subset.lean (one lemma per constructor).
-/
namespace ErrModel

/-- One hop between knowing processes preserves the labelled tree, with the text at every node. -/
theorem C01_hop (vf : Err → Str) (tag : Nat) (e : Err) (h : stable e = true) :
    ∃ e', hop Full Full vf tag e = some e' ∧ shape vf e' = shape vf e ∧ stable e' = true :=
  hop_ok vf e [tag] h

/-- `C01_hops` with the encoding carried along, for `C01_no_drift` -/
theorem hops_ok (vf : Err → Str) (tag : Nat) (e : Err) (h : stable e = true) :
    ∀ k : Nat, ∃ e', hopsFull vf tag k e = some e' ∧ shape vf e' = shape vf e ∧ stable e' = true ∧
      encode Full vf e' = encode Full vf e
  | 0 => ⟨e, rfl, rfl, h, rfl⟩
  | k + 1 => by
    obtain ⟨e1, h1, hs1, hst1, hen1⟩ := hops_ok vf tag e h k
    obtain ⟨e2, h2, hs2, hst2, hen2⟩ := hop_ok_enc vf e1 [tag + k] hst1
    exact ⟨e2, by rw [hopsFull, h1]; exact h2, hs2.trans hs1, hst2, hen2.trans hen1⟩

/-- Any number of hops: decoding never fails, the visible tree and the text at
    every node are those of the original error. -/
theorem C01_hops (vf : Err → Str) (tag : Nat) (e : Err) (h : stable e = true) :
    ∀ k : Nat, ∃ e', hopsFull vf tag k e = some e' ∧ shape vf e' = shape vf e ∧ stable e' = true := by
  intro k
  obtain ⟨e', h1, h2, h3, _⟩ := hops_ok vf tag e h k
  exact ⟨e', h1, h2, h3⟩

/-- In particular the Error() text of the whole error is preserved. -/
theorem C01_text (vf : Err → Str) (tag : Nat) (e : Err) (h : stable e = true) (k : Nat) :
    ∃ e', hopsFull vf tag k e = some e' ∧ text e' = text e := by
  obtain ⟨e', h1, hs, _⟩ := C01_hops vf tag e h k
  exact ⟨e', h1, text_eq_of_shape hs⟩

/-- No drift: what a knowing process decodes re-encodes to the very wire message it received. -/
theorem C01_reencode (vf : Err → Str) (tag : Nat) (e : Err) (h : stable e = true) :
    ∃ e', hop Full Full vf tag e = some e' ∧ encode Full vf e' = encode Full vf e ∧ stable e' = true := by
  obtain ⟨e', h1, _, h3, h4⟩ := hop_ok_enc vf e [tag] h
  exact ⟨e', h1, h4, h3⟩

/-- No drift over any number of hops: the wire message at every hop is the message of the first
    encoding (so in particular hop 2 sends what hop 1 sent). -/
theorem C01_no_drift (vf : Err → Str) (tag : Nat) (e : Err) (h : stable e = true) :
    ∀ k : Nat, ∃ e', hopsFull vf tag k e = some e' ∧ encode Full vf e' = encode Full vf e ∧ stable e' = true := by
  intro k
  obtain ⟨e', h1, _, h3, h4⟩ := hops_ok vf tag e h k
  exact ⟨e', h1, h4, h3⟩

/-- The crux for unregistered wrappers, for ALL byte strings. -/
theorem C01_unregistered_wrapper_text (m c : Str) (h : m ≠ colonSp ++ c) :
    opaqueText (extractPrefix m c).1 (extractPrefix m c).2 c = m :=
  extract_reassemble m c h

/-- …and the excluded shape really is mis-rendered by the pinned algorithm
    (a wrapper printing ": " ++ cause comes back printing just the cause). -/
theorem C01_excluded_shape_counterexample :
    opaqueText (extractPrefix (colonSp ++ b!"x") (b!"x")).1 (extractPrefix (colonSp ++ b!"x") (b!"x")).2 (b!"x")
      ≠ colonSp ++ b!"x" := by decide

/-- Non-vacuity: a five-layer tree mixing library, stdlib and foreign kinds,
    with a hidden error, meets the hypothesis. -/
example : stable
    (.wrap [1,0] (.withStack [⟨7, b!"main.f\n\tf.go:1"⟩])
      (.wrap [1,1] (.withPrefix (b!"outer"))
        (.second [2,0]
          (.wrap [3,0] (.user ⟨b!"x/y/*y.W", b!"*y.W", 0, [], 0⟩ (b!"ctx"))
            (.multi [4,0] .join [.leaf [5,0] (.errorString (b!"a")), .barrier [6,0] ⟨b!"m", none⟩ (.leaf [7,0] .deadline)]))
          (.leaf [8,0] (.pkgFundamental (b!"sec") [⟨9, b!"main.g\n\tg.go:2"⟩]))))) = true := by decide


/-! ## The Error() the formatting engine computes

`text` above is the compositional Error(); the real `Error()` methods of `withPrefix`, the opaque
wrapper and `Join` go through the formatting engine (`errText`).  The two agree wherever every
visible wrapper sits over a regular cause (library `Join` nodes excepted, see Proofs/TextEq.lean),
so the transfer theorems speak about the engine-computed Error() as well. -/

/-- partial: library `Join` among the visible layers is not covered by the theorem (tied by the
    correspondence streams only) -/
theorem C01_engine_text_partial (e : Err) (h : EngOK e) : errText e = text e := errText_eq_text e h

/-- the engine-computed Error() survives any number of hops -/
theorem C01_engine_text_hops_partial (vf : Err → Str) (tag : Nat) (e : Err) (h : stable e = true) (he : EngOK e) (k : Nat) :
    ∃ e', hopsFull vf tag k e = some e' ∧ (EngOK e' → errText e' = errText e) := by
  obtain ⟨e', h1, ht⟩ := C01_text vf tag e h k
  exact ⟨e', h1, fun he' => by rw [errText_eq_text e' he', ht, errText_eq_text e he]⟩

/- non-vacuity: `exE_EngOK` in Props/C09.lean (the C09 witness meets the hypothesis). -/


/-! ## The bytes on the wire

`Proto*.lean` model the protobuf encoding that the generated code of /repo/errorspb writes and reads:
base-128 varints, length-delimited and varint fields, proto3 omission of empty strings and zero
numbers, the embedded mark and details, the `Any` with the library's payload messages, the oneof of
`EncodedErrorLeaf` / `EncodedWrapper` and the recursion through `EncodedError`, nested payload
messages included.  The theorems go up in that order; the ones named `_partial` cover a part of the
message that a later one completes.  The model's bytes are compared with `Marshal` of the real messages
on every generated case (streams `detbytes`, `wirebytes`, `paybytes`, `fullbytes`, `allbytes`).  Outside
the byte-level model (trusted, exercised by real hops): a gRPC status payload that carries details; not
covered by the theorems either: an `Any` that the process kept undecoded (`Pay.raw`). -/

/-- a varint of a 64-bit value is read back, whatever follows it -/
theorem C01_wire_varint (n : Nat) (h : n < 2 ^ 64) (rest : List UInt8) :
    Proto.readVarint 10 (Proto.varint n ++ rest) = some (n, rest) :=
  Proto.readVarint_varint n 10 rest (Proto.varint_length_u64 n h)

/-- the type mark of a layer survives its own wire encoding, for all byte strings -/
theorem C01_wire_mark_partial (m : TMark) (h1 : m.fam.length < 2 ^ 64) (h2 : m.ext.length < 2 ^ 64) :
    Proto.desMark (Proto.serMark m) = some m :=
  Proto.desMark_serMark m h1 h2

/-- the type name, the mark and the safe details of a layer survive their wire encoding, for all
    byte strings (empty ones, which proto3 omits, included) -/
theorem C01_wire_details_partial (d : Det) (h1 : d.origType.length < 2 ^ 64) (h2 : d.mark.fam.length < 2 ^ 62)
    (h3 : d.mark.ext.length < 2 ^ 62) (h4 : ∀ s ∈ d.rep, s.length < 2 ^ 64) :
    Proto.desDet (Proto.serDet d) = some (d.origType, d.mark, d.rep) :=
  Proto.desDet_serDet d h1 h2 h3 h4

/-- a concrete layer: an empty extension and an empty reportable string among non-empty ones -/
theorem C01_wire_example :
    Proto.serDet ⟨b!"t", ⟨b!"f", []⟩, [b!"a", [], b!"bc"], .none⟩ =
      [0x0a, 1, 116, 0x12, 3, 0x0a, 1, 102, 0x1a, 1, 97, 0x1a, 0, 0x1a, 2, 98, 99] := by
  simp [Proto.serDet, Proto.detFields, Proto.serMark, Proto.markFields, Proto.serLD, Proto.lenField, Proto.varint]


/-- the whole message, payloads cleared: the generated reader gives back the message the generated
    writer was given — any nesting depth, any number of multi-cause branches, any byte strings,
    any message type — provided every length prefix fits 64 bits (`SmallW`) -/
theorem C01_wire_message_partial (w : Proto.W) (h : Proto.SmallW w) :
    Proto.desW (Proto.height w) (Proto.serW w) = some w :=
  Proto.desW_serW w (Proto.height w) (Nat.le_refl _) h

/-- non-vacuity: a wrapper with a full message over a two-branch multi-cause leaf -/
def exW : Proto.W :=
  .wrap (b!"m") ⟨b!"t", ⟨b!"f", b!"x"⟩, [b!"r"], .none⟩ 1
    (.leaf [] ⟨[], ⟨b!"g", []⟩, [], .none⟩ [.leaf (b!"a") ⟨b!"u", ⟨b!"u", []⟩, [], .none⟩ [], .leaf (b!"b") ⟨b!"u", ⟨b!"u", []⟩, [], .none⟩ []])
theorem exW_small : Proto.SmallW exW := by
  simp only [exW, Proto.SmallW, Proto.SmallWs, Proto.DetSmall]
  decide +kernel


/-- the `Any` that carries a payload: type URL and value come back, for all byte strings -/
theorem C01_wire_any (url val : List UInt8) (h1 : url.length < 2 ^ 64) (h2 : val.length < 2 ^ 64) :
    Proto.desAny (Proto.serAny url val) = some (url, val) :=
  Proto.desAny_serAny url val h1 h2

/-- every payload message of the library is read back as it was written (strings, repeated
    strings, the errno payload with its five flags, marks with any number of types, tags with any
    number of pairs, HTTP and gRPC codes, the empty test payload, a gRPC status without details) -/
theorem C01_wire_payload_partial (p : Pay) (name : Str) (fields : List Proto.Item)
    (hf : Proto.payFields p = some (name, fields)) (hs : Proto.PaySmall p) :
    Proto.desPayNamed name (Proto.serItems fields) = some p :=
  Proto.desPay_serPay p name fields hf hs


/-- the details of a layer WITH its payload: type name, mark, safe details and the payload message
    come back (any modelled payload, any byte strings) -/
theorem C01_wire_details_with_payload (d : Det) (h : Proto.DetSmallP d) :
    Proto.detOfBytesP (some (Proto.serDetP d)) = some d :=
  Proto.detOfBytesP_serDetP d h

/-- the whole message WITH its payloads, when these are the library's flat payload messages: the
    generated reader gives back the message the generated writer was given, at any depth and with any
    number of multi-cause branches (stream `fullbytes`: the model's bytes equal gogo's on every such
    case).  Partial: a nested EncodedError payload is a message of its own (`C01_wire_message_partial`
    applies to it), a gRPC status payload that carries details is not modelled. -/
theorem C01_wire_full_partial (w : Proto.F) (h : Proto.SmallF w) :
    Proto.desF (Proto.heightF w) (Proto.serF w) = some w :=
  Proto.desF_serF w (Proto.heightF w) (Nat.le_refl _) h


/-- A hop through actual bytes — EncodeError, Marshal, Unmarshal, DecodeError — is the hop of the
    transport model (to which C01_hop … C01_no_drift apply), for every error whose layers carry no
    nested EncodedError payload and whose length prefixes fit 64 bits.  Partial: barrier and
    secondary-error layers (nested payload) and gRPC status leaves whose status carries details go through
    gogo's code unmodelled. -/
theorem C01_hop_through_bytes_partial (P Q : Proc) (vf : Err → Str) (tag : Nat) (e : Err)
    (hn : Proto.noNested (encode P vf e) = true) (hs : Proto.SmallF (Proto.full (encode P vf e))) :
    (Proto.throughBytes (encode P vf e)).bind (decode Q [tag]) = hop P Q vf tag e :=
  Proto.hop_through_bytes P Q vf tag e hn hs


/-- the COMPLETE message: flat payload messages and nested EncodedError payloads (the masked error of
    a barrier, a secondary error — at any nesting depth) — is read back as it was written (stream
    `allbytes`: the model's bytes equal gogo's on every case whose payloads are modelled, `Proto.modelled`) -/
theorem C01_wire_complete (w : Proto.G) (h : Proto.SmallG w) :
    Proto.desG (Proto.heightG w) (Proto.serG w) = some w :=
  Proto.desG_serG w (Proto.heightG w) (Nat.le_refl _) h

/-- hence a hop through actual bytes is the hop of the transport model for every error whose
    payloads are modelled — everything the library builds except gRPC status leaves (finding D13's kind)
    whose status carries details; `oneHid`: a layer carries at most one nested message, as EncodeError
    produces -/
theorem C01_hop_through_bytes (P Q : Proc) (vf : Err → Str) (tag : Nat) (e : Err)
    (hn : Proto.oneHid (encode P vf e) = true) (hs : Proto.SmallG (Proto.fullG (encode P vf e))) :
    (Proto.throughBytesG (encode P vf e)).bind (decode Q [tag]) = hop P Q vf tag e :=
  Proto.hop_through_bytes_all P Q vf tag e hn hs


/-- `oneHid` holds of everything EncodeError produces from locally built layers (and from received
    opaque layers that satisfy it): the hypothesis of the previous theorem is about opaque stand-ins
    only (`hidOK`) -/
theorem C01_hop_through_bytes_built (P Q : Proc) (vf : Err → Str) (tag : Nat) (e : Err)
    (hk : Proto.hidOK e = true) (hs : Proto.SmallG (Proto.fullG (encode P vf e))) :
    (Proto.throughBytesG (encode P vf e)).bind (decode Q [tag]) = hop P Q vf tag e :=
  Proto.hop_through_bytes_all P Q vf tag e (Proto.oneHid_encode P vf e hk) hs

end ErrModel
