import ErrModel.Report
/-
  C15 — The Sentry report is faithful to the error's structure.

  Model: `buildReport` (report.BuildSentryReport) over `visitAll` (visitAllMulti), the
  per-layer safe details and `reportableStack` (GetReportableStackTrace).
-/
namespace ErrModel

/-! ### one composition line per layer -/

/-- the composition lines, innermost layer first: each is computed from the loop state before it -/
def linesFrom (m : Str) : Acc → List Layer → List Str
  | _, [] => []
  | a, l :: r => lineOf a l :: linesFrom m (compStep m a l) r

theorem linesFrom_length (m : Str) (a : Acc) (ls : List Layer) : (linesFrom m a ls).length = ls.length := by
  induction ls generalizing a with
  | nil => rfl
  | cons l r ih => simp [linesFrom, ih]

theorem foldl_compStep_lines (m : Str) (ls : List Layer) (a : Acc) :
    (ls.foldl (compStep m) a).msg =
      a.msg ++ (if ls = [] then [] else a.sep ++ joinWith nlS (linesFrom m a ls)) := by
  induction ls generalizing a with
  | nil => simp
  | cons l r ih =>
    rw [List.foldl_cons, ih]
    cases r with
    | nil => simp [compStep, linesFrom, joinWith]
    | cons l2 r2 =>
      simp only [List.cons_ne_nil, if_false, linesFrom, joinWith]
      simp [compStep, List.append_assoc]

/-- after the header the message consists of exactly one line per layer (innermost first),
    joined by newlines, then possibly the closing remark -/
theorem C15_composition (P : Proc) (vf : Err → Str) (trim : List Str) (e : Err) :
    ∃ lines tail, lines.length = (visitAll e).length ∧
      (buildReport P vf trim e).message =
        srcPrefix P e ++ verboseRedacted e ++ compHeader ++ joinWith nlS lines ++ tail := by
  have hne : (reportLayers P vf trim e).reverse ≠ [] := by
    have : (visitAll e) ≠ [] := by cases e <;> simp [visitAll]
    simpa [reportLayers] using this
  refine ⟨linesFrom (getDomain e) (initAcc P e) (reportLayers P vf trim e).reverse,
    (if (compLoop P vf trim e).extraNum > 1 then nl :: b!"(check the extra data payloads)" else []), ?_, ?_⟩
  · rw [linesFrom_length]; simp [reportLayers]
  · show finalMsg (compLoop P vf trim e) = _
    have h := foldl_compStep_lines (getDomain e) (reportLayers P vf trim e).reverse (initAcc P e)
    simp only [hne, if_false] at h
    have hs : (initAcc P e).sep = [] := rfl
    have hm : (initAcc P e).msg = srcPrefix P e ++ verboseRedacted e ++ compHeader := rfl
    rw [hs, hm] at h
    unfold finalMsg compLoop
    rw [h]
    split <;> simp [List.append_assoc]

/-- the message begins with the innermost source line (when there is a stack trace), the
    redacted verbose rendering and the composition header -/
theorem C15_message_head (P : Proc) (vf : Err → Str) (trim : List Str) (e : Err) :
    (srcPrefix P e ++ verboseRedacted e ++ compHeader) <+: (buildReport P vf trim e).message := by
  obtain ⟨lines, tail, -, h⟩ := C15_composition P vf trim e
  exact ⟨joinWith nlS lines ++ tail, by simp only [h, List.append_assoc]⟩

/-- the line of a layer names its type (path removed) -/
theorem lineOf_names_type (a : Acc) (l : Layer) : ∃ pre post, lineOf a l = pre ++ lastPathComponent l.origType ++ post := by
  unfold lineOf
  cases l.stack with
  | some frames => exact ⟨_, _, rfl⟩
  | none =>
    simp only []
    split
    · exact ⟨[], b!": " ++ (l.details.head?.map firstLine).getD [], by simp [List.append_assoc]⟩
    · exact ⟨[], [], by simp⟩

/-! ### one exception per layer that carries a stack trace -/

/-- the stacks of the layers that carry one, in the order the loop meets them -/
def stacksOf (ls : List Layer) : List (List RFrame) := ls.filterMap (·.stack)

theorem foldl_compStep_excs (m : Str) (ls : List Layer) (a : Acc) :
    ∃ new, (ls.foldl (compStep m) a).excs = a.excs ++ new ∧
      new.map (·.frames) = (stacksOf ls).map some ∧ ∀ x ∈ new, x.module = m := by
  induction ls generalizing a with
  | nil => exact ⟨[], by simp [stacksOf]⟩
  | cons l r ih =>
    obtain ⟨new, h1, h2, h3⟩ := ih (compStep m a l)
    refine ⟨excOf m a l ++ new, by rw [List.foldl_cons, h1, ← List.append_assoc]; rfl, ?_, ?_⟩
    · unfold stacksOf at h2 ⊢
      cases hs : l.stack <;> simp [excOf, hs, h2]
    · intro x hx
      rcases List.mem_append.mp hx with hx | hx
      · unfold excOf at hx
        cases hs : l.stack <;> simp_all
      · exact h3 x hx

theorem finalExcs_frames (m lt : Str) (a : Acc) :
    (finalExcs m lt a).map (·.frames) = if a.excs = [] then [none] else (a.excs.map (·.frames)).reverse := by
  unfold finalExcs; split <;> simp [*]

/-- exactly one exception per layer that carries a stack trace, outermost first, each with
    the frames of that layer's stack; one synthetic exception without frames when no layer
    carries one -/
theorem C15_exceptions (P : Proc) (vf : Err → Str) (trim : List Str) (e : Err) :
    (buildReport P vf trim e).exceptions.map (·.frames) =
      (if stacksOf (reportLayers P vf trim e) = [] then [none]
       else (stacksOf (reportLayers P vf trim e)).map some) := by
  obtain ⟨new, h1, h2, -⟩ := foldl_compStep_excs (getDomain e) (reportLayers P vf trim e).reverse (initAcc P e)
  have h0 : (compLoop P vf trim e).excs = new := h1
  have h3 : new = [] ↔ stacksOf (reportLayers P vf trim e) = [] := by
    rw [← List.map_eq_nil_iff (f := (·.frames)), h2]; simp [stacksOf, List.filterMap_reverse]
  simp only [buildReport, finalExcs_frames, h0, h2, h3]
  simp [stacksOf, List.filterMap_reverse]

/-- every exception carries the error's domain as module -/
theorem C15_module (P : Proc) (vf : Err → Str) (trim : List Str) (e : Err) :
    ∀ x ∈ (buildReport P vf trim e).exceptions, x.module = getDomain e := by
  obtain ⟨new, h1, -, hm⟩ := foldl_compStep_excs (getDomain e) (reportLayers P vf trim e).reverse (initAcc P e)
  have h0 : (compLoop P vf trim e).excs = new := h1
  show ∀ x ∈ finalExcs _ _ (compLoop P vf trim e), _
  unfold finalExcs
  split
  · simp
  · next first rest hex =>
    rw [h0] at hex
    intro x hx
    simp only [List.mem_reverse, List.mem_cons] at hx
    rcases hx with rfl | hx
    · exact hm first (by simp [hex])
    · exact hm x (by simp [hex, hx])

/-! ### one line of the `error types` extra per layer -/

/-- one line per layer, innermost first, with its type name and mark -/
theorem C15_types (P : Proc) (vf : Err → Str) (trim : List Str) (e : Err) :
    (buildReport P vf trim e).types = ((reportLayers P vf trim e).reverse.flatMap typesLine) := rfl

theorem typesLine_shape (l : Layer) :
    typesLine l = l.origType ++ b!" (" ++ (if l.origType ≠ l.mark.fam then l.mark.fam else b!"*") ++ b!"::" ++ l.mark.ext ++ b!")" ++ [nl] := rfl

/-- the layers of the report are the visible layers, each exactly once: the layer itself,
    then its single cause, then its multiple causes -/
theorem C15_layers_length (P : Proc) (vf : Err → Str) (trim : List Str) (e : Err) :
    (reportLayers P vf trim e).length = (visitAll e).length := by simp [reportLayers]

/-- a nil error produces no report -/
def buildReportOpt (P : Proc) (vf : Err → Str) (trim : List Str) : Option Err → Option Report
  | none => none
  | some e => some (buildReport P vf trim e)

theorem C15_nil (P : Proc) (vf : Err → Str) (trim : List Str) : buildReportOpt P vf trim none = none := rfl

end ErrModel
