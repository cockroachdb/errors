import ErrModel.Generated.UnwrapFacts
import ErrModel.Accessors
import ErrModel.Props.C08
import ErrModel.Props.C11
/-
  C07 — Barriers and secondary errors hide their payload from cause analysis.

  `forget d e` replaces every hidden sub-error of `e` (barrier payloads, secondary
  errors; at any depth of the visible tree) by the fixed error `d`.  The theorems say
  that cause analysis cannot tell `e` from `forget d e`: the hidden errors are
  unreachable through Unwrap/Cause/UnwrapAll and contribute nothing to Is, IsAny and the
  Has*/Get* accessors.  The reference given to Mark is not stored at all: only its mark
  (message + type chain) is (`cMark`).
-/
namespace ErrModel

mutual
def forget (d : Err) : Err → Err
  | .leaf id k => .leaf id k
  | .barrier id m _ => .barrier id m d
  | .wrap id k c => .wrap id k (forget d c)
  | .second id c _ => .second id (forget d c) d
  | .multi id k cs => .multi id k (forgetL d cs)
def forgetL (d : Err) : List Err → List Err
  | [] => []
  | e :: r => forget d e :: forgetL d r
end

/-- A barrier has no cause: Unwrap / UnwrapOnce return nil, UnwrapAll stops at it. -/
theorem C07_barrier_unwrap (id : Ident) (m : BarrierMsg) (h : Err) :
    unwrapOnce (.barrier id m h) = none ∧ unwrapAll (.barrier id m h) = .barrier id m h ∧
    unwrapMulti (.barrier id m h) = [] := ⟨rfl, rfl, rfl⟩

/-- The secondary error is not the cause. -/
theorem C07_secondary_unwrap (id : Ident) (c s : Err) :
    unwrapOnce (.second id c s) = some c ∧ unwrapAll (.second id c s) = unwrapAll c := ⟨rfl, rfl⟩

mutual
/-- Error() does not depend on hidden errors (the barrier prints its own message). -/
theorem C07_text (d e : Err) : text (forget d e) = text e :=
  match e with
  | .leaf .. | .barrier .. => rfl
  | .wrap _ k c => congrArg (wrapText k) (C07_text d c)
  | .second _ c _ => C07_text d c
  | .multi _ k cs => congrArg (multiText k) (textList_forget d cs)
theorem textList_forget (d : Err) : (cs : List Err) → textList (forgetL d cs) = textList cs
  | [] => rfl
  | e :: r => by rw [forgetL, textList, textList, C07_text d e, textList_forget d r]
end

/-! `forget d` acts layer by layer on the cause chain and on the visible layers; what is left to show is that no
    observer of a single layer (its label; its type mark, mark, identity and Is method) sees the difference -/

theorem chain_forget (d : Err) : (e : Err) → chain (forget d e) = (chain e).map (forget d)
  | .leaf .. | .barrier .. | .multi .. => rfl
  | .wrap _ _ c | .second _ c _ => congrArg (_ :: ·) (chain_forget d c)

mutual
theorem reach_forget (d : Err) : (e : Err) → reach (forget d e) = (reach e).map (forget d)
  | .leaf .. | .barrier .. => rfl
  | .wrap _ _ c | .second _ c _ => congrArg (_ :: ·) (reach_forget d c)
  | .multi _ _ cs => congrArg (_ :: ·) (reachL_forget d cs)
theorem reachL_forget (d : Err) : (cs : List Err) → reachL (forgetL d cs) = (reachL cs).map (forget d)
  | [] => rfl
  | e :: r => by rw [forgetL, reachL, reachL, List.map_append, reach_forget d e, reachL_forget d r]
end

theorem map_layer_forget {α : Type} (d : Err) (f : Err → α) (hf : ∀ n, f (forget d n) = f n) (l : List Err) :
    (l.map (forget d)).map f = l.map f := by
  simp [List.map_map, Function.comp_def, hf]

/-- what a layer shows (its label, annotations included) does not depend on what it hides -/
theorem label_forget (vf : Err → Str) (d : Err) : (n : Err) → label vf (forget d n) = label vf n
  | .leaf _ _ => rfl
  | .barrier .. => label_barrier_congr vf rfl
  | .wrap _ k c => label_wrap_congr vf k (C07_text d c)
  | .second _ c _ => label_second_congr vf (C07_text d c)
  | .multi _ k cs => label_multi_congr vf k (textList_forget d cs)

theorem annChain_forget (vf : Err → Str) (d e : Err) : annChain vf (forget d e) = annChain vf e := by
  rw [annChain, chain_forget]
  exact map_layer_forget d _ (fun n => congrArg Lbl.ann (label_forget vf d n)) _

/-- The Get*/Has* accessors are blind to hidden errors: hints, details, issue links,
    telemetry keys, domain, context tags, HTTP and gRPC codes, the assertion /
    issue-link flags and the timeout predicate. -/
theorem C07_accessors (d e : Err) :
    getAllHints (forget d e) = getAllHints e ∧ getAllDetails (forget d e) = getAllDetails e ∧
    getAllIssueLinks (forget d e) = getAllIssueLinks e ∧ getTelemetryKeys (forget d e) = getTelemetryKeys e ∧
    getDomain (forget d e) = getDomain e ∧ getContextTags (forget d e) = getContextTags e ∧
    (∀ dflt, getHTTPCode (forget d e) dflt = getHTTPCode e dflt) ∧ getGrpcCode (forget d e) = getGrpcCode e ∧
    hasAssertionFailure (forget d e) = hasAssertionFailure e ∧ hasIssueLink (forget d e) = hasIssueLink e ∧
    isTimeout (forget d e) = isTimeout e := by
  -- any `vf` will do: it enters the safe details of the annotations only, which these eleven accessors do not read
  have ⟨h1, h2, h3, h4, h5, h6, h7, h8, h9, h10, h11, _⟩ := accessors_of_annChain (fun _ => []) (annChain_forget _ d e)
  exact ⟨h1, h2, h3, h4, h5, h6, h7, h8, h9, h10, h11⟩

theorem typeMark_forget (P : Proc) (d : Err) : (n : Err) → typeMark P (forget d n) = typeMark P n
  | .wrap _ k _ => typeMark_wrap_congr P k
  | .multi _ k _ => typeMark_multi_congr P k
  | .leaf .. | .barrier .. | .second .. => rfl

theorem getMark_forget (P : Proc) (d n : Err) : getMark P (forget d n) = getMark P n := by
  rw [getMark_eq, getMark_eq, show storedMark (forget d n) = storedMark n from congrArg Lbl.stored (label_forget (fun _ => []) d n),
    C07_text, chain_forget, map_layer_forget d _ (typeMark_forget P d)]

/-- Go `==` and the Is methods look at the layer's own identity and fields only -/
theorem selfMatch_forget (d n r : Err) : selfMatch (forget d n) r = selfMatch n r := by
  cases n <;> first | rfl | (cases r with | leaf _ k2 => cases k2 <;> rfl | _ => rfl)

theorem layerMatch_forget (P : Proc) (r d n : Err) : layerMatch P r (forget d n) = layerMatch P r n := by
  rw [layerMatch, selfMatch_forget, getMark_forget]; rfl

/-- Is cannot see hidden errors: whatever sits behind a barrier or in a secondary
    error, at any depth, the answer is the same. -/
theorem C07_is (P : Proc) (d e r : Err) : isB P (forget d e) r = isB P e r := by
  rw [isB_char, isB_char, reach_forget, List.any_map]
  exact congrArg _ (funext (layerMatch_forget P r d))

/-- IsAny likewise. -/
theorem C07_isAny (P : Proc) (d e : Err) (refs : List (Option Err)) :
    isAnyB P (forget d e) refs = isAnyB P e refs := by
  simp only [C08_any, C07_is]

/-- In particular a sentinel hidden behind a barrier (or in a secondary error) is not
    matched, while the same sentinel as a cause is. -/
theorem C07_is_example :
    let sentinel : Err := .leaf [1] (.errorString (b!"context canceled"))
    let hiddenBehind : Err := .barrier [100] ⟨b!"context canceled", none⟩ sentinel
    let asSecondary : Err := .second [101] (.leaf [102] (.errorString (b!"x"))) sentinel
    let asCause : Err := .wrap [103] (.withHint (b!"h")) sentinel
    isB Full hiddenBehind sentinel = false ∧ isB Full asSecondary sentinel = false ∧ isB Full asCause sentinel = true := by
  decide +kernel

/-- Handled / Opaque / HandledWithMessage(f): a barrier; its text is its own message. -/
theorem C07_handled (n : Nat) (rs : RStr) (e : Err) :
    (cHandled n rs (some e)).map unwrapOnce = some none ∧ (cHandled n rs (some e)).map text = some (stripMarkers rs) := by
  simp [cHandled, unwrapOnce, text]

/-- HandleAsAssertionFailure and NewAssertionErrorWithWrappedErrf put the original error
    behind a barrier: the root cause of the result is that barrier. -/
theorem C07_handleAsAssertion_root (n : Nat) (rs : RStr) (st : Stack) (e : Err) :
    (cHandleAsAssertionFailure n rs st (some e)).map unwrapAll = some (.barrier (lid n 0) ⟨rs, none⟩ e) := by
  simp [cHandleAsAssertionFailure, cAnnot, cWithStack, cHandled, unwrapAll]

theorem C07_newAssertionWrapped_root (n : Nat) (a : RStr) (b : Bool) (rs : RStr) (st : Stack) (e : Err) :
    (cNewAssertionErrorWithWrappedErrf n a b rs st (some e)).map unwrapAll = some (.barrier (lid n 0) ⟨a, none⟩ e) := by
  cases b <;> simp [cNewAssertionErrorWithWrappedErrf, cAnnot, cWrap, cHandled, unwrapAll]

/-- WithSecondaryError: the secondary error is not on the cause chain. -/
theorem C07_secondary_chain (n : Nat) (e s : Err) :
    (cWithSecondary n (some e) (some s)).map chain = some (.second (lid n 0) e s :: chain e) := by
  simp [cWithSecondary, chain]

/-- Error arguments captured by Newf/Wrapf are attached as secondary errors only. -/
theorem C07_newf_args_hidden (n : Nat) (rs : RStr) (st : Stack) (errArgs : List Err) :
    (cNewfE n rs st errArgs).map unwrapAll = some (.leaf (lid n 1) (.leafError rs)) := by
  simp [cNewfE, unwrapAll, addSecondaries_inv unwrapAll (fun _ _ _ => rfl)]

/-- Mark stores nothing of its reference but the mark: two references with the same mark
    give the same result, whatever else they contain (sentinels, hints, codes, domains…). -/
theorem C07_mark_reference (P : Proc) (n : Nat) (e : Option Err) (r r' : Err) (h : getMark P r = getMark P r') :
    cMark P n e (some r) = cMark P n e (some r') := by
  cases e <;> simp [cMark, h]


/-! ## The source's own Cause / Unwrap methods (regenerated on every run)

`Generated/UnwrapFacts.lean`: every `Cause()` / `Unwrap()` method of a struct type of /repo that
has an error-typed field, with the receiver field it returns; `hiddenFields` are the fields a
package ships as an `EncodeError` payload instead of as a cause (the barrier's masked error, the
secondary error). -/

/-- no Cause/Unwrap method of the current source returns (or, when its body is not a plain
    `return recv.field`, mentions) a hidden field -/
theorem C07_hidden_fields_never_unwrapped : Unwrap.methods.all (fun m => !m.hidden) = true := by decide +kernel

/-- the table is not vacuous: both hidden fields are recognised, and the wrapper types are listed -/
theorem C07_hidden_fields_found : 2 ≤ Unwrap.hiddenFields.length ∧ 20 ≤ Unwrap.methods.length := by decide +kernel

end ErrModel
