import ErrModel.Grpc
import ErrModel.Proofs.Subset
/-
  C20 — The gRPC interceptors deliver the handler's error to the caller.
-/
namespace ErrModel

theorem reportedCode_ne_zero (e : Err) : reportedCode e ≠ 0 := by
  unfold reportedCode
  split <;> simp_all

/-- The server interceptor never panics (repaired: it used to, for a handler error that
    carries codes.OK — which killed the server process). -/
theorem C20_server_total (vf : Err → Str) (e : Option Err) : (serverIntercept vf e).isSome = true := by
  cases e with
  | none => rfl
  | some e =>
    cases h : asStatus e with
    | some p => simp [serverIntercept, h]
    | none => simp [serverIntercept, h, reportedCode_ne_zero]

/-- An error that is not itself a gRPC status error arrives exactly as if it had been
    transferred directly with EncodeError / DecodeError: the very same decoded value, hence
    the same text, identity, annotations and rendering. -/
theorem C20_equals_direct (vf : Err → Str) (tag : Nat) (e : Err) (hs : asStatus e = none) :
    viaGrpc vf tag (some e) = (hop Full Full vf tag e).map some := by
  simp [viaGrpc, serverIntercept, hs, reportedCode_ne_zero, clientIntercept, hop]

/-- The status code visible to callers is the code attached with WrapWithGrpcCode,
    Unknown (2) when there is none (or when the attached code is OK: a non-nil error is
    never reported as success). -/
theorem C20_visible_code (vf : Err → Str) (e : Err) (hs : asStatus e = none) :
    visibleCode vf (some e) = some (if getGrpcCode e = 0 then 2 else getGrpcCode e) := by
  simp [visibleCode, serverIntercept, hs, reportedCode_ne_zero]
  rfl

theorem C20_code_default (e : Err) (h : (chain e).findSome? layerGrpc = none) : getGrpcCode e = 2 := by
  simp [getGrpcCode, h]

theorem C20_code_attached (id : Ident) (n : Nat) (e : Err) : getGrpcCode (.wrap id (.withGrpcCode n) e) = n := by
  have : layerGrpc (.wrap id (.withGrpcCode n) e) = some n := rfl
  simp [getGrpcCode, chain, this]

/-- Errors that already are gRPC status errors pass through with their code and message. -/
theorem C20_status_passthrough (vf : Err → Str) (tag : Nat) (e : Err) (c : Nat) (m : Str)
    (hs : asStatus e = some (c, m)) :
    viaGrpc vf tag (some e) = some (some (.leaf [tag] (.grpcStatus c m 0))) ∧
    visibleCode vf (some e) = some c := by
  simp [viaGrpc, visibleCode, serverIntercept, hs, clientIntercept]

/-- nil passes through. -/
theorem C20_nil (vf : Err → Str) (tag : Nat) : viaGrpc vf tag none = some none ∧ visibleCode vf none = some 0 := by
  simp [viaGrpc, visibleCode, serverIntercept, clientIntercept]

/-- By the hop theorem (`hop_ok`): for stable errors the delivered error has the same labelled
    shape (text, types, marks, annotations at every layer). -/
theorem C20_delivered_shape (vf : Err → Str) (tag : Nat) (e : Err)
    (hs : asStatus e = none) (hst : stable e = true) :
    ∃ e', viaGrpc vf tag (some e) = some (some e') ∧ shape vf e' = shape vf e := by
  obtain ⟨e', h1, h2, _⟩ := hop_ok vf e [tag] hst
  exact ⟨e', by rw [C20_equals_direct vf tag e hs]; simp [hop, h1], h2⟩

end ErrModel
