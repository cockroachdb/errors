import ErrModel.Proofs.EngineLW
import ErrModel.Proofs.Regular
/-
  C06 — Redactable renderings are well-formed and congruent with plain ones.

  Main theorem (`C06_wellformed`): for EVERY error whose stored redactable strings are
  well-formed (`WFE`: the messages / prefixes built by `redact.Sprintf` at construction — whatever
  the format arguments, hints, details, paths, tag keys and values, domains, type names,
  opaque messages ... contain: marker runes, newlines anywhere, NUL, invalid UTF-8), the
  redactable rendering with `%v`/`%s`/`%+v`, what `redact.Sprintf("%v", err)` returns, and
  its `Redact()` form are line-well-formed (`LW`: markers balanced, never nested, balanced
  within every line).  It is proved on the token form of the rendering through the whole
  engine: the redact buffer model (`LW_assembleT`, `LW_escapeBytesT`, `LW_redactT`), the
  `state.Write` machine (`writeLoop_closed`), entry collection and the two layouts, by mutual
  induction over the error tree including hidden and multi-cause parts (`ents_sound`).
  `C06_bytes` transfers it to the byte string when no three plain bytes of the rendering
  spell a marker (`NoSpell`).  Also: unsupported verbs are refused; non-redactable entries
  are escaped by `redact.EscapeBytes`; the plain and redactable modes collect the same
  buffers (`C06_collect_congruent`).
-/
namespace ErrModel

/-- in redactable mode `%q`, `%x`, `%X` are refused with the `%!verb(type)` notation -/
theorem C06_refused_q_x_X (sp : Spec) (e : Err) (hv : sp.verb = vQ ∨ sp.verb = vx ∨ sp.verb = vX) :
    formatVerb true sp e = .bad (badVerb sp.verb e) := by
  rcases hv with hv | hv | hv <;> simp [formatVerb, hv, vV, vS, vQ, vx, vX]

/-- in redactable mode `%#v` is refused -/
theorem C06_refused_sharp_v (sp : Spec) (e : Err) (hv : sp.verb = vV) (hs : sp.sharp = true) :
    formatVerb true sp e = .bad (badVerb sp.verb e) := by
  simp [formatVerb, hv, hs, vV, vS]

/-- any other verb is refused in both modes -/
theorem C06_refused_other (red : Bool) (sp : Spec) (e : Err)
    (h : sp.verb ≠ vV ∧ sp.verb ≠ vS ∧ sp.verb ≠ vQ ∧ sp.verb ≠ vx ∧ sp.verb ≠ vX) :
    formatVerb red sp e = .bad (badVerb sp.verb e) := by
  obtain ⟨h1, h2, h3, h4, h5⟩ := h
  simp [formatVerb, h1, h2, h3, h4, h5]

/-- the refusal mentions only the verb and the Go type of the error: nothing of its contents -/
theorem C06_refusal_is_safe (v : UInt8) (e e' : Err) (h : e.ty = e'.ty) : badVerb v e = badVerb v e' := by
  simp [badVerb, h]

/-- the supported verbs in redactable mode: `%v`, `%s` (one line) and `%+v` (verbose); the
    redactable buffer is handed to the redact printer as it is -/
theorem C06_supported (sp : Spec) (e : Err) (hv : sp.verb = vV ∨ sp.verb = vS) (hs : sp.sharp = false) :
    formatVerb true sp e = .direct (render true (sp.verb = vV && sp.plus) e) := by
  rcases hv with hv | hv <;> cases hp : sp.plus <;> simp [formatVerb, finishDisplay, hv, hs, hp, vV, vS]

/-! ### non-redactable entries never enter a redactable rendering unescaped -/

theorem C06_unsafe_entry_escaped (en : Entry) (s : Toks) (h : en.redactable = false) :
    escIfNeeded true en s = escapeBytesT (stripT s) := by
  simp [escIfNeeded, h]

theorem C06_plain_entry_untouched (en : Entry) (s : Toks) : escIfNeeded false en s = s := by
  simp [escIfNeeded]

/-- an entry is flagged redactable only when its buffer came from a SafeFormatError method
    (or a special case) *and* the output is redactable -/
theorem C06_redactable_flag (s : LState) (bufIsRedactable redOut wd : Bool) (d : Nat) (t : Str) :
    (collect s bufIsRedactable redOut wd d t).redactable = (bufIsRedactable && redOut) :=
  collect_redactable s bufIsRedactable redOut wd d t

/-- the two output modes see the same buffers: the plain mode strips the markers of a
    redactable buffer, and leaves a non-redactable one as it is -/
theorem C06_collect_congruent (s : LState) (b wd : Bool) (d : Nat) (t : Str) :
    (collect s b false wd d t).head = (if b then bytesT (stripT (collect s b true wd d t).head) else (collect s b true wd d t).head) ∧
    (collect s b false wd d t).details = (if b then bytesT (stripT (collect s b true wd d t).details) else (collect s b true wd d t).details) := by
  cases b <;> exact ⟨rfl, rfl⟩

/-! ### well-formedness of redactable renderings, for all string contents -/

/-- `%v` / `%s` (detail = false) and `%+v` (detail = true) in redactable mode -/
theorem C06_wellformed (e : Err) (h : WFE e) (detail : Bool) : LW (renderT true detail e) :=
  renderT_LW detail e h

/-- what `redact.Sprintf("%v" / "%+v", err)` returns: the rendering passed through the redact printer -/
theorem C06_wellformed_sprintf (e : Err) (h : WFE e) (detail : Bool) :
    LW (assembleT [.preT (renderT true detail e)]) :=
  LW_assembleT _ (by intro g hg; simp at hg; subst hg; exact renderT_LW detail e h)

theorem C06_wellformed_redacted (e : Err) (h : WFE e) (detail : Bool) :
    LW (redactT (assembleT [.preT (renderT true detail e)])) :=
  LW_redactT _ (C06_wellformed_sprintf e h detail)

/-- the plain rendering contains no marker token at all -/
theorem C06_plain_no_markers_in_entries (s : LState) (b wd : Bool) (d : Nat) (t : Str) (hb : b = true) :
    AllBytes (collect s b false wd d t).head ∧ AllBytes (collect s b false wd d t).details := by
  subst hb
  exact ⟨allBytes_bytesT _, allBytes_bytesT _⟩

/-! ### congruence with the plain rendering (one-line form, regular text)

  For the errors over regular text, `RegE` (Proofs/Regular.lean).
  The inputs are marker-free in the sense of the property: that is what `Clean` says.
  The verbose form is decided by the correspondence and the oracle. -/

/-- stripping the markers (as tokens) from the redactable `%v`/`%s` rendering gives exactly the plain
    rendering of the same error, at any depth -/
theorem C06_congruent_v (e : Err) (h : RegE e) : stripT (renderT true false e) = render false false e := by
  rw [stripT_renderT_v e h true, render_v_eq_errText e h]

/-- the same on the bytes a caller holds (`StripMarkers` of the redactable string), unless three
    adjacent plain bytes of the rendering spell a marker -/
theorem C06_congruent_v_bytes (e : Err) (h : RegE e) (hs : NoSpell (eraseLabel (renderT true false e))) :
    stripMarkers (render true false e) = render false false e := by
  have : stripMarkers (render true false e) = stripT (lex (unlex (renderT true false e))) := rfl
  rw [this, lex_unlex_erase _ hs, stripT_eraseLabel, C06_congruent_v e h]

/-- both renderings are the Error() text -/
theorem C06_both_are_error_text (e : Err) (h : RegE e) :
    stripT (renderT true false e) = errText e ∧ render false false e = errText e :=
  ⟨stripT_renderT_v e h true, render_v_eq_errText e h⟩

/-- on bytes: the string a caller receives is `unlex` of the tokens; lexing it gives the same
    tokens back — hence the same well-formedness — unless three adjacent plain bytes of the
    rendering spell a marker -/
theorem C06_bytes (e : Err) (h : WFE e) (detail : Bool) (hs : NoSpell (eraseLabel (renderT true detail e))) :
    LW (lex (render true detail e)) := by
  unfold render
  rw [lex_unlex_erase _ hs]
  exact lw_eraseLabel (renderT_LW detail e h)

/-- the hypothesis is met by what the constructors store: a message assembled by the redact
    printer is well-formed (and so are all its byte-level readings without a spelled marker) -/
theorem C06_stored_by_constructors (segs : List SegT) (hs : ∀ g ∈ segs, g.ok) (hn : NoSpell (eraseLabel (assembleT segs))) :
    LW (lex (unlex (assembleT segs))) := by
  rw [lex_unlex_erase _ hn]; exact lw_eraseLabel (LW_assembleT segs hs)

/-- a concrete hostile instance of the hypothesis: unsafe pieces with marker runes, newlines at
    both ends, NUL and invalid UTF-8 between safe pieces with a marker rune -/
example : LW (assembleT [.lit (b!"a‹b: "), .arg ([10, 0xE2, 0x80, 0xB9, 0xFF, 10, 10, 0, 10]), .lit (b!" ›"), .arg []]) :=
  LW_assembleT _ (by intro g hg; simp at hg; rcases hg with rfl | rfl | rfl | rfl <;> trivial)

end ErrModel
