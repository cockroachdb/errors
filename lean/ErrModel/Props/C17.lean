import ErrModel.Migrations
import ErrModel.Transport
/-
  C17 — Type renames do not break cross-version identity.

  Registry part: `register` (the repaired RegisterTypeMigration) keeps the table *flat*
  — every value is a name that is not itself a key — and after any registration a key
  resolves to the ROOT of its rename chain, so the outcome does not depend on the order
  in which chained renames are declared.
-/
namespace ErrModel

/-- every value of the table is a root (a name that is not itself renamed) -/
def Flat (reg : Registry) : Prop := ∀ k p, reg.lookup k = some p → reg.lookup p = none

theorem lookup_map_val (reg : Registry) (f : Str → Str) (k : Str) :
    (reg.map (fun e => (e.1, f e.2))).lookup k = (reg.lookup k).map f := by
  induction reg with
  | nil => rfl
  | cons a r ih =>
    simp only [List.map, List.lookup]
    cases h : (k == a.1) <;> simp [ih]

def subst1 (n root x : Str) : Str := if x = n then root else x

/-- an accepted registration: the new name was free, it now maps to the root of the previous name, and every
    stored value goes through one substitution -/
theorem register_some (reg : Registry) (prev new : Str) (reg' : Registry) (h : register reg prev new = some reg') :
    reg.lookup new = none ∧
      reg' = (new, resolveKey reg prev) :: reg.map (fun e => (e.1, subst1 new (resolveKey reg prev) e.2)) := by
  unfold register at h
  split at h
  · cases h
  · refine ⟨Option.not_isSome_iff_eq_none.mp ‹_›, (Option.some.inj h).symm.trans ?_⟩
    congr 2; funext e; unfold subst1; split <;> rfl

theorem register_lookup (reg : Registry) (prev new : Str) (reg' : Registry)
    (h : register reg prev new = some reg') (k : Str) :
    reg'.lookup k =
      if k = new then some (resolveKey reg prev)
      else (reg.lookup k).map (fun p => if p = new then resolveKey reg prev else p) := by
  rw [(register_some reg prev new reg' h).2, List.lookup_cons, lookup_map_val]
  by_cases hk : k = new
  · simp [hk]
  · rw [beq_false_of_ne hk, if_neg hk]; rfl

theorem resolveKey_eq (reg : Registry) (k : Str) : resolveKey reg k = (reg.lookup k).getD k := by
  unfold resolveKey; cases reg.lookup k <;> rfl

/-- closed form: registration post-composes every resolution with one substitution -/
theorem resolve_register (reg : Registry) (prev new : Str) (reg' : Registry)
    (h : register reg prev new = some reg') (k : Str) :
    resolveKey reg' k = subst1 new (resolveKey reg prev) (resolveKey reg k) := by
  have hfresh := (register_some reg prev new reg' h).1
  rw [resolveKey_eq reg' k, resolveKey_eq reg k, register_lookup reg prev new reg' h]
  by_cases hk : k = new
  · simp [hk, hfresh, subst1]
  · cases reg.lookup k <;> simp [hk, subst1]

/-- Registering the same target twice is rejected. -/
theorem C17_dup (reg : Registry) (prev prev' new : Str) (reg' : Registry)
    (h : register reg prev new = some reg') : register reg' prev' new = none := by
  have := register_lookup reg prev new reg' h new
  simp at this
  unfold register
  simp [this]

/-- After a registration the new name resolves to the ROOT of the previous name (not to the
    previous name itself). -/
theorem C17_resolve_new (reg : Registry) (prev new : Str) (reg' : Registry)
    (h : register reg prev new = some reg') :
    resolveKey reg' new = resolveKey reg prev := by
  simp [resolve_register reg prev new reg' h, subst1, resolveKey_eq reg new, (register_some reg prev new reg' h).1]

theorem resolveKey_root (reg : Registry) (hf : Flat reg) (k : Str) : reg.lookup (resolveKey reg k) = none := by
  rw [resolveKey_eq]
  cases hl : reg.lookup k with
  | none => exact hl
  | some p => exact hf k p hl

/-- Flatness is an invariant of registration (for a rename that is not circular). -/
theorem C17_flat (reg : Registry) (prev new : Str) (reg' : Registry) (hf : Flat reg)
    (hacyc : resolveKey reg prev ≠ new)
    (h : register reg prev new = some reg') : Flat reg' := by
  -- a root other than `new` stays a root; every value of the new table is the new resolution of its key,
  -- which is the old resolution of `prev` or of the key
  have stays (y : Str) (hy : y ≠ new) (hl : reg.lookup y = none) : reg'.lookup y = none := by
    rw [register_lookup reg prev new reg' h, if_neg hy, hl]; rfl
  intro k p hkp
  have hp : p = resolveKey reg' k := by rw [resolveKey_eq, hkp]; rfl
  rw [hp, resolve_register reg prev new reg' h, subst1]
  split
  · exact stays _ hacyc (resolveKey_root reg hf prev)
  · exact stays _ ‹_› (resolveKey_root reg hf k)

/-- In a flat table resolution is idempotent: resolved names are original names. -/
theorem C17_resolve_idem (reg : Registry) (hf : Flat reg) (k : Str) :
    resolveKey reg (resolveKey reg k) = resolveKey reg k := by
  have := resolveKey_root reg hf k
  generalize resolveKey reg k = x at this ⊢
  simp [resolveKey, this]

theorem C17_flat_empty : Flat [] := by intro k p h; simp [List.lookup] at h

/-- two substitutions commute, each applied to the other's replacement, unless they rename each
    other's replacement into a cycle -/
theorem subst1_comm (n1 n2 ρ1 ρ2 x : Str) (hne : n1 ≠ n2) (hcyc : ¬ (ρ1 = n2 ∧ ρ2 = n1)) :
    subst1 n2 (subst1 n1 ρ1 ρ2) (subst1 n1 ρ1 x) = subst1 n1 (subst1 n2 ρ2 ρ1) (subst1 n2 ρ2 x) := by
  -- each side is an if-then-else on `x = n1`, `x = n2`, `ρ1 = n2`, `ρ2 = n1`: `grind` splits on these four tests
  -- and closes every combination by rewriting, the excluded one (`ρ1 = n2` and `ρ2 = n1`) by `hcyc`
  unfold subst1
  grind

/-- Two rename declarations commute: whichever is registered first, every name resolves
    to the same original name afterwards (the declarations must not rename each other's
    roots into a cycle). -/
theorem C17_commute (reg : Registry) (p1 n1 p2 n2 : Str)
    (r1 r12 r2 r21 : Registry)
    (h1 : register reg p1 n1 = some r1) (h12 : register r1 p2 n2 = some r12)
    (h2 : register reg p2 n2 = some r2) (h21 : register r2 p1 n1 = some r21)
    (hne : n1 ≠ n2)
    (hcyc : ¬ (resolveKey reg p1 = n2 ∧ resolveKey reg p2 = n1)) :
    ∀ k, resolveKey r12 k = resolveKey r21 k := by
  intro k
  rw [resolve_register r1 p2 n2 r12 h12 k, resolve_register reg p1 n1 r1 h1 k,
      resolve_register reg p1 n1 r1 h1 p2,
      resolve_register r2 p1 n1 r21 h21 k, resolve_register reg p2 n2 r2 h2 k,
      resolve_register reg p2 n2 r2 h2 p1]
  exact subst1_comm _ _ _ _ _ hne hcyc

def chainDecls : List (Str × Str) := [(b!"k0", b!"k1"), (b!"k1", b!"k2"), (b!"k2", b!"k3")]

def allRoot (decls : List (Str × Str)) : Bool :=
  match registerAll register [] decls with
  | none => false
  | some reg => [b!"k1", b!"k2", b!"k3"].all (fun k => resolveKey reg k == b!"k0")

/-- All registration orders of a three-link chain k0 ← k1 ← k2 ← k3 resolve every name to k0
    (exhaustive over the 6 orders; keys are arbitrary concrete distinct names). -/
theorem C17_order_chain3 :
    ([ [0,1,2], [0,2,1], [1,0,2], [1,2,0], [2,0,1], [2,1,0] ] : List (List Nat)).all
      (fun perm => allRoot (perm.filterMap (fun i => chainDecls[i]?))) = true := by decide +kernel

/-- the pinned algorithm did depend on the order: declared oldest-first, the newest name
    resolved to its immediate predecessor only (regression witness of the repaired defect) -/
theorem C17_pinned_order_counterexample :
    (registerAll registerPinned [] chainDecls).map (fun r => resolveKey r (b!"k3")) = some (b!"k2") := by decide +kernel

/-- A renamed type is encoded under its original name: the family of a type is its
    resolution in the process's registry. -/
theorem C17_wire_name (P : Proc) (e : Err) (h : e.opaqueDet = none) :
    (typeMark P e).fam = resolveKey P.reg e.ty.full := by
  simp [typeMark, h, Proc.family_eq_resolveKey]

/-- Processes that renamed the same original type differently still put the same family
    name on the wire (scenario "simultaneous migration"). -/
theorem C17_same_wire_name (P Q : Proc) (e f : Err) (he : e.opaqueDet = none) (hf : f.opaqueDet = none)
    (h : resolveKey P.reg e.ty.full = resolveKey Q.reg f.ty.full) :
    (typeMark P e).fam = (typeMark Q f).fam := by
  rw [C17_wire_name P e he, C17_wire_name Q f hf, h]

end ErrModel
