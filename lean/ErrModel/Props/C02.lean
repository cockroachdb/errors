import ErrModel.Proofs.IsTransfer
import ErrModel.Props.C01
/-
  C02 — Error identity (Is/IsAny) is invariant under network transfer.

  Proof idea: a hop preserves the *labelled* shape of an error (`Lbl`: text, type mark,
  original type name, stored mark, the signatures of the Is methods, … at every visible layer —
  `hop_ok`), and `Is` depends on the candidate only through that labelled shape
  once object identity is accounted for (`isB_congr_shape`).

  `NoIdMatch e r` is the coherence of Go identities ("a layer that IS the object r
  has r's mark"); it holds of every real pair of objects and of decoded objects
  (fresh pointers).  `IdFreeIs e r` is the exception the property itself states:
  no layer of `e` answers through an Is method that compares object identity.
-/
namespace ErrModel

/-- k hops of e, reference r local: same answer, never a panic. -/
theorem C02_e (vf : Err → Str) (tag k : Nat) (e r : Err) (hst : stable e = true) (h : NoIdMatch e r) :
    ∃ e', hopsFull vf tag k e = some e' ∧
      (NoIdMatch e' r → is Full e' r = is Full e r) := by
  obtain ⟨e', h1, hs, _⟩ := C01_hops vf tag e hst k
  exact ⟨e', h1, fun h' => by simp only [is]; rw [isB_congr_shape vf e e' r hs h h']⟩

/-- the transferred error is still recognised as itself -/
theorem C02_self (vf : Err → Str) (tag k : Nat) (e : Err) (hst : stable e = true) (hcoh : NoIdMatch e e) :
    ∃ e', hopsFull vf tag k e = some e' ∧ (NoIdMatch e' e → is Full e' e = some true) := by
  obtain ⟨e', h1, hs, _⟩ := C01_hops vf tag e hst k
  exact ⟨e', h1, fun h' => by simp only [is]; rw [isB_congr_shape vf e e' e hs hcoh h', isB_self]⟩

/-- No layer of `e` matches `r` through an Is method (the exception the property states). -/
def IdFreeIs (e r : Err) : Prop := ∀ n ∈ reach e, isMethod n r = false

/-- without Is methods in play, `Is` asks only whether some visible layer's mark is the reference's -/
theorem isNoId_idfree (e r : Err) (hf : IdFreeIs e r) :
    isNoId e r = ((reach e).map (getMark Full)).any (fun m => markEquiv m (getMark Full r)) := by
  rw [List.any_map]
  exact any_congr_mem fun n hn => by rw [hf n hn]; rfl

theorem C02_ref (vf : Err → Str) (tag j : Nat) (e r : Err) (hst : stable r = true) :
    ∃ r', hopsFull vf tag j r = some r' ∧
      (NoIdMatch e r → NoIdMatch e r' → IdFreeIs e r → IdFreeIs e r' → is Full e r' = is Full e r) := by
  obtain ⟨r', h1, hs, _⟩ := C01_hops vf tag r hst j
  refine ⟨r', h1, fun hc hc' hf hf' => ?_⟩
  simp only [is]
  rw [isB_eq_isNoId e r hc, isB_eq_isNoId e r' hc', isNoId_idfree e r hf, isNoId_idfree e r' hf', getMark_congr_shape vf r r' hs]

theorem C02_both (vf : Err → Str) (tag k tag' j : Nat) (e r : Err) (he : stable e = true) (hr : stable r = true) :
    ∃ e' r', hopsFull vf tag k e = some e' ∧ hopsFull vf tag' j r = some r' ∧
      (NoIdMatch e r → NoIdMatch e' r' → IdFreeIs e r → IdFreeIs e' r' → is Full e' r' = is Full e r) := by
  obtain ⟨e', h1, hs, _⟩ := C01_hops vf tag e he k
  obtain ⟨r', h2, hs2, _⟩ := C01_hops vf tag' r hr j
  refine ⟨e', r', h1, h2, fun hc hc' hf hf' => ?_⟩
  simp only [is]
  rw [isB_eq_isNoId e r hc, isB_eq_isNoId e' r' hc', isNoId_idfree e r hf, isNoId_idfree e' r' hf',
    getMark_congr_shape vf r r' hs2, marks_congr_shape vf e e' hs]

/-- The stated exception is real: an errno matches the local sentinel through its Is
    method but not a transferred copy of the sentinel (whose identity is gone and whose
    mark differs). -/
theorem C02_idfree_needed :
    let e : Err := .leaf [100] (.errno 2 (b!"no such file or directory") false false true false false)
    let r : Err := .leaf idErrNotExist (.errorString (b!"file does not exist"))
    let r' : Err := .leaf [2000, 7] (.errorString (b!"file does not exist"))
    is Full e r = some true ∧ is Full e r' = some false := by decide

/-- identities of decoded objects are fresh: if no layer of `e'` has the reference's
    identity and no value-kind equality applies, coherence holds trivially -/
theorem noIdMatch_of_fresh (e' r : Err) (h : ∀ n ∈ reach e', goEq n r = false) : NoIdMatch e' r := by
  intro n hn hg
  rw [h n hn] at hg
  cases hg

end ErrModel
