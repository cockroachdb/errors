import ErrModel.Proofs.Regular
/-
  The two Error() functions of the model agree: `Sem.text` (compositional; what the transport
  theorems C01/C02/C04/C11/C13 speak about) and `Engine.errText` (Error() computed through the
  formatting engine wherever the real method goes through it; what C09/C06/C10 speak about).
  Proved for every tree whose visible wrappers sit over regular causes, library `Join` nodes
  excepted (their Error() is a redactable rendering of all branches, stripped: tied by the
  correspondence streams `tree` / `fmt0.error`, not by a theorem).
-/
namespace ErrModel

mutual
/-- every visible wrapper sits over a regular cause (`RegE`), recursively through the branches of
    foreign multi-cause nodes; no library `Join` among the visible layers; hidden parts unconstrained -/
def EngOK : Err → Prop
  | .leaf _ _ => True
  | .barrier _ _ _ => True
  | .wrap _ _ c => RegE c ∧ EngOK c
  | .second _ c _ => EngOK c
  | .multi _ k cs => k ≠ .join ∧ EngOKL cs
def EngOKL : List Err → Prop
  | [] => True
  | e :: r => EngOK e ∧ EngOKL r
end

mutual
theorem errText_eq_text : (e : Err) → EngOK e → errText e = text e
  | .leaf _ _, _ => by simp [errText, text]
  | .barrier _ _ _, _ => by simp [errText, text]
  | .wrap id k c, h => by
    simp only [EngOK] at h
    rw [errText_wrap_reg id k c h.1, errText_eq_text c h.2]
    simp [text]
  | .second _ c _, h => by
    simp only [EngOK] at h
    simp [errText, text, errText_eq_text c h]
  | .multi _ k cs, h => by
    simp only [EngOK] at h
    have hl := errTextL_eq_textList cs h.2
    cases k with
    | join => exact absurd rfl h.1
    | _ => simp [errText, text, hl]
theorem errTextL_eq_textList : (cs : List Err) → EngOKL cs → errTextL cs = textList cs
  | [], _ => by simp [errTextL, textList]
  | e :: r, h => by
    simp only [EngOKL] at h
    simp [errTextL, textList, errText_eq_text e h.1, errTextL_eq_textList r h.2]
end

end ErrModel
