import ErrModel.Sem
/-
  `Is` as one recursion equation (`isB_eq`) and as a search over the visible layers (`isB_char`);
  `IsAny` as the disjunction of `Is` over the references, loop by loop (`isAnyB_eq_any`).
-/
namespace ErrModel

theorem equalTys_eq : ∀ (a b : List TMark), equalTys a b = decide (a = b)
  | [], [] => by simp [equalTys]
  | [], _ :: _ => by simp [equalTys]
  | _ :: _, [] => by simp [equalTys]
  | x :: a, y :: b => by
    simp only [equalTys]
    by_cases h : x = y
    · simp [h, equalTys_eq a b]
    · simp [h]

/-- the repaired `equalMarks` decides exactly the documented equivalence -/
theorem equalMarks_eq_markEquiv (m1 m2 : Mark) : equalMarks m1 m2 = markEquiv m1 m2 := by
  unfold equalMarks markEquiv
  by_cases h : m1.msg = m2.msg
  · by_cases hl : m1.tys.length = m2.tys.length
    · simp [h, hl, equalTys_eq]
    · have : m1.tys ≠ m2.tys := fun h2 => hl (by rw [h2])
      simp [h, hl, this]
  · simp [h]

theorem markEquiv_refl (m : Mark) : markEquiv m m = true := by simp [markEquiv]

theorem goEq_refl (e : Err) : goEq e e = true := by
  cases e with
  | leaf id k => cases k <;> simp [goEq, Err.isValueKind]
  | _ => simp [goEq, Err.isValueKind]

theorem isPhase1_self (P : Proc) (e : Err) : isPhase1 P e e = true := by
  cases e <;> simp [isPhase1, selfMatch, goEq_refl]

/-- what one layer contributes to `Is(e, r)` -/
def layerMatch (P : Proc) (r : Err) (n : Err) : Bool :=
  selfMatch n r || markEquiv (getMark P n) (getMark P r)

theorem isPhase2_eq (P : Proc) (rm : Mark) (l : List Err) :
    isPhase2 P rm l = l.any (fun c => markEquiv (getMark P c) rm) := by
  induction l with
  | nil => simp [isPhase2]
  | cons a r ih => simp [isPhase2, ih, equalMarks_eq_markEquiv]

theorem chain_ne_nil (e : Err) : chain e ≠ [] := by
  cases e <;> exact List.cons_ne_nil _ _

theorem isAnyBranch_eq_any (P : Proc) (r : Err) : (cs : List Err) → isAnyBranch P r cs = cs.any (fun c => isB P c r)
  | [] => rfl
  | b :: rest => by rw [isAnyBranch, isAnyBranch_eq_any P r rest]; rfl

theorem isB_eq (P : Proc) (e r : Err) :
    isB P e r = (layerMatch P r e || (unwrapOnce e).any (fun c => isB P c r) || (unwrapMulti e).any (fun c => isB P c r)) := by
  rw [isB]
  cases e <;>
    simp only [isPhase1, isPhase2, chain, layerMatch, unwrapOnce, unwrapMulti, equalMarks_eq_markEquiv, isAnyBranch_eq_any,
      Option.any_some, Option.any_none, List.any_nil, Bool.or_false, isB] <;> ac_rfl

mutual
theorem isB_char (P : Proc) (r : Err) : (e : Err) → isB P e r = (reach e).any (layerMatch P r)
  | .leaf .. | .barrier .. => by rw [isB_eq]; simp [unwrapOnce, unwrapMulti, reach]
  | .wrap _ _ c | .second _ c _ => by rw [isB_eq]; simp [unwrapOnce, unwrapMulti, reach, isB_char P r c]
  | .multi _ _ cs => by
    rw [isB_eq]; simp [unwrapOnce, unwrapMulti, reach, ← isAnyBranch_eq_any, isAnyBranch_char P r cs]
theorem isAnyBranch_char (P : Proc) (r : Err) : (cs : List Err) →
    isAnyBranch P r cs = (reachL cs).any (layerMatch P r)
  | [] => rfl
  | b :: rest => by
    rw [isAnyBranch_eq_any, List.any_cons, isB_char P r b, ← isAnyBranch_eq_any, isAnyBranch_char P r rest, reachL,
      List.any_append]
end

theorem layerMatch_self (P : Proc) (e : Err) : layerMatch P e e = true := by
  simp [layerMatch, selfMatch, goEq_refl]

theorem isB_self (P : Proc) (e : Err) : isB P e e = true := by
  rw [isB_eq, layerMatch_self]; rfl

theorem anySelf_eq (c : Err) (rs : List Err) : anySelf c rs = rs.any (fun r => selfMatch c r) := by
  induction rs with
  | nil => simp [anySelf]
  | cons a r ih => simp [anySelf, ih]

theorem anyMark_eq (P : Proc) (m : Mark) (rms : List Mark) :
    anyMark P m rms = rms.any (fun rm => markEquiv m rm) := by
  induction rms with
  | nil => simp [anyMark]
  | cons a r ih => simp [anyMark, ih, equalMarks_eq_markEquiv]

/-- what one layer contributes to `IsAny(e, rs)` -/
def layerMatchAny (P : Proc) (rs : List Err) (n : Err) : Bool := rs.any (fun r => layerMatch P r n)

theorem isAnyPhase2_eq (P : Proc) (rms : List Mark) (l : List Err) :
    isAnyPhase2 P rms l = l.any (fun c => anyMark P (getMark P c) rms) := by
  induction l with
  | nil => simp [isAnyPhase2]
  | cons a r ih => simp [isAnyPhase2, ih]

/-! `IsAny` runs the two loops of `Is` for all references at once: loop by loop it is the
    disjunction over the references -/

theorem isAnyPhase2_any (P : Proc) (rs : List Err) (l : List Err) :
    isAnyPhase2 P (rs.map (getMark P)) l = rs.any (fun r => isPhase2 P (getMark P r) l) := by
  simp only [isAnyPhase2_eq, anyMark_eq, isPhase2_eq, List.any_map, Function.comp_def]
  exact any_any_swap ..

mutual
theorem isAnyPhase1_any (P : Proc) (rs : List Err) : (e : Err) → isAnyPhase1 P rs e = rs.any (fun r => isPhase1 P r e)
  | .leaf id k | .barrier id m h => by simp only [isAnyPhase1, isPhase1, anySelf_eq]
  | .wrap id k c | .second id c s => by simp only [isAnyPhase1, isPhase1, anySelf_eq, isAnyPhase1_any P rs c, any_or]
  | .multi id k cs => by simp only [isAnyPhase1, isPhase1, anySelf_eq, isAnyBranches_any P rs cs, any_or]
theorem isAnyBranches_any (P : Proc) (rs : List Err) : (cs : List Err) →
    isAnyBranches P rs cs = rs.any (fun r => isAnyBranch P r cs)
  | [] => by simp [isAnyBranches, isAnyBranch]
  | b :: rest => by
    simp only [isAnyBranches, isAnyBranch, isAnyPhase1_any P rs b, isAnyBranches_any P rs rest, isAnyPhase2_any, any_or]
end

theorem isAnyB_eq_any (P : Proc) (e : Err) (refs : List (Option Err)) :
    isAnyB P e refs = (dropNone refs).any (fun r => isB P e r) := by
  simp only [isAnyB, isB, isAnyPhase1_any, isAnyPhase2_any, any_or]

theorem isAnyBranches_char (P : Proc) (rs : List Err) : (cs : List Err) →
    isAnyBranches P rs cs = (reachL cs).any (layerMatchAny P rs) := fun cs => by
  simp only [isAnyBranches_any, isAnyBranch_char]
  exact any_any_swap ..

end ErrModel
