import ErrModel.Transport
/-
  Which decoder each library key selects.  `classify` is a first-match search in a table of 28 keys
  (`classify_eq_table`); the keys of the table, and the library keys that have no decoder, are pairwise
  distinct (`keys_distinct`, one evaluation on byte literals), so every key selects its own entry.
-/
namespace ErrModel

/-- the type keys for which the library registers a decoder, each with the decoder it selects -/
def decoderKeys : List (Str × KeyClass) :=
  [(k_errorString, .errorString), (k_deadline, .deadline), (k_errno, .errno), (k_leafError, .leafError),
   (k_unimplemented, .unimplemented), (k_barrier, .barrier), (k_barrierPrev, .barrierPrev), (k_join, .join),
   (k_grpcStatus, .grpcStatus), (k_gogoStatus, .gogoStatus), (k_pkgWithMessage, .pkgWithMessage),
   (k_pathError, .pathError), (k_linkError, .linkError), (k_syscallError, .syscallError),
   (k_withPrefix, .withPrefix), (k_withNewMessage, .withNewMessage), (k_withHint, .withHint),
   (k_withDetail, .withDetail), (k_withMark, .withMark), (k_withSecondary, .withSecondary),
   (k_withContext, .withContext), (k_withHTTPCode, .withHTTPCode), (k_withGrpcCode, .withGrpcCode),
   (k_withDomain, .withDomain), (k_withIssueLink, .withIssueLink), (k_withTelemetry, .withTelemetry),
   (k_withAssertionFailure, .withAssertionFailure), (k_withSafeDetails, .withSafeDetails)]

def classifyIn : List (Str × KeyClass) → Str → KeyClass
  | [], _ => .other
  | (a, c) :: r, k => if k = a then c else classifyIn r k

theorem classify_eq_table (k : Str) : classify k = classifyIn decoderKeys k := rfl

/-- an entry is found if the keys are told apart by some function `f` -/
theorem classifyIn_of_mem {l : List (Str × KeyClass)} {α : Type} (f : Str → α) (hn : (l.map (fun p => f p.1)).Nodup)
    {k : Str} {c : KeyClass} (hm : (k, c) ∈ l) : classifyIn l k = c := by
  induction l with
  | nil => cases hm
  | cons p r ih =>
    obtain ⟨a, b⟩ := p
    rw [List.map_cons, List.nodup_cons] at hn
    rw [classifyIn]
    rcases List.mem_cons.mp hm with h | h
    · cases h; exact if_pos rfl
    · have : k ≠ a := fun hka => hn.1 (List.mem_map.mpr ⟨(k, c), h, by rw [hka]⟩)
      rw [if_neg this]; exact ih hn.2 h

theorem classifyIn_of_not_mem {l : List (Str × KeyClass)} {α : Type} (f : Str → α) {k : Str}
    (hk : f k ∉ l.map (fun p => f p.1)) : classifyIn l k = .other := by
  induction l with
  | nil => rfl
  | cons p r ih =>
    obtain ⟨a, b⟩ := p
    rw [List.map_cons, List.mem_cons, not_or] at hk
    rw [classifyIn, if_neg (fun h => hk.1 (by rw [h])), ih hk.2]

abbrev k_withStack : Str := (WrapKind.withStack []).ty.full
abbrev k_pkgWithStack : Str := (WrapKind.pkgWithStack []).ty.full
abbrev k_pkgFundamental : Str := (LeafKind.pkgFundamental [] []).ty.full
abbrev k_opaqueErrno : Str := (LeafKind.opaqueErrno [] 0 [] false false false false false).ty.full
abbrev k_testErr : Str := LeafKind.testErr.ty.full
abbrev k_fmtWrapError : Str := (WrapKind.fmtWrapError []).ty.full
abbrev k_stdJoin : Str := MultiKind.stdJoin.ty.full
abbrev k_fmtWrapErrors : Str := (MultiKind.fmtWrapErrors []).ty.full

def noDecoderKeys : List Str :=
  [k_withStack, k_pkgWithStack, k_pkgFundamental, k_opaqueErrno, k_testErr, k_fmtWrapError, k_stdJoin, k_fmtWrapErrors]

/-- the key read as a number in base 256: the keys share long package paths, and the kernel is slow at walking two
    byte lists in step but quick at comparing two numbers -/
def keyNum (k : Str) : Nat := k.foldl (fun a b => 256 * a + b.toNat) 0

theorem keys_distinct : ((decoderKeys.map (·.1) ++ noDecoderKeys).map keyNum).Nodup := by decide +kernel

theorem classify_at {k : Str} {c : KeyClass} (i : Nat) (hi : decoderKeys[i]? = some (k, c)) : classify k = c := by
  have h := keys_distinct
  rw [List.map_append, List.nodup_append, List.map_map] at h
  rw [classify_eq_table]
  exact classifyIn_of_mem keyNum h.1 (List.mem_of_getElem? hi)

theorem classify_noDecoder {k : Str} (i : Nat) (hi : noDecoderKeys[i]? = some k) : classify k = .other := by
  have h := keys_distinct
  rw [List.map_append, List.nodup_append, List.map_map] at h
  rw [classify_eq_table]
  exact classifyIn_of_not_mem keyNum fun hk => h.2.2 _ hk _ (List.mem_map_of_mem (List.mem_of_getElem? hi)) rfl

@[simp] theorem classify_errorString : classify k_errorString = .errorString := classify_at 0 rfl
@[simp] theorem classify_deadline : classify k_deadline = .deadline := classify_at 1 rfl
@[simp] theorem classify_errno : classify k_errno = .errno := classify_at 2 rfl
@[simp] theorem classify_leafError : classify k_leafError = .leafError := classify_at 3 rfl
@[simp] theorem classify_unimplemented : classify k_unimplemented = .unimplemented := classify_at 4 rfl
@[simp] theorem classify_barrier : classify k_barrier = .barrier := classify_at 5 rfl
@[simp] theorem classify_barrierPrev : classify k_barrierPrev = .barrierPrev := classify_at 6 rfl
@[simp] theorem classify_join : classify k_join = .join := classify_at 7 rfl
@[simp] theorem classify_grpcStatus : classify k_grpcStatus = .grpcStatus := classify_at 8 rfl
@[simp] theorem classify_gogoStatus : classify k_gogoStatus = .gogoStatus := classify_at 9 rfl
@[simp] theorem classify_pkgWithMessage : classify k_pkgWithMessage = .pkgWithMessage := classify_at 10 rfl
@[simp] theorem classify_pathError : classify k_pathError = .pathError := classify_at 11 rfl
@[simp] theorem classify_linkError : classify k_linkError = .linkError := classify_at 12 rfl
@[simp] theorem classify_syscallError : classify k_syscallError = .syscallError := classify_at 13 rfl
@[simp] theorem classify_withPrefix : classify k_withPrefix = .withPrefix := classify_at 14 rfl
@[simp] theorem classify_withNewMessage : classify k_withNewMessage = .withNewMessage := classify_at 15 rfl
@[simp] theorem classify_withHint : classify k_withHint = .withHint := classify_at 16 rfl
@[simp] theorem classify_withDetail : classify k_withDetail = .withDetail := classify_at 17 rfl
@[simp] theorem classify_withMark : classify k_withMark = .withMark := classify_at 18 rfl
@[simp] theorem classify_withSecondary : classify k_withSecondary = .withSecondary := classify_at 19 rfl
@[simp] theorem classify_withContext : classify k_withContext = .withContext := classify_at 20 rfl
@[simp] theorem classify_withHTTPCode : classify k_withHTTPCode = .withHTTPCode := classify_at 21 rfl
@[simp] theorem classify_withGrpcCode : classify k_withGrpcCode = .withGrpcCode := classify_at 22 rfl
@[simp] theorem classify_withDomain : classify k_withDomain = .withDomain := classify_at 23 rfl
@[simp] theorem classify_withIssueLink : classify k_withIssueLink = .withIssueLink := classify_at 24 rfl
@[simp] theorem classify_withTelemetry : classify k_withTelemetry = .withTelemetry := classify_at 25 rfl
@[simp] theorem classify_withAssertionFailure : classify k_withAssertionFailure = .withAssertionFailure := classify_at 26 rfl
@[simp] theorem classify_withSafeDetails : classify k_withSafeDetails = .withSafeDetails := classify_at 27 rfl

@[simp] theorem classify_withStack : classify k_withStack = .other := classify_noDecoder 0 rfl
@[simp] theorem classify_pkgWithStack : classify k_pkgWithStack = .other := classify_noDecoder 1 rfl
@[simp] theorem classify_pkgFundamental : classify k_pkgFundamental = .other := classify_noDecoder 2 rfl
@[simp] theorem classify_opaqueErrno : classify k_opaqueErrno = .other := classify_noDecoder 3 rfl
@[simp] theorem classify_testErr : classify k_testErr = .other := classify_noDecoder 4 rfl
@[simp] theorem classify_fmtWrapError : classify k_fmtWrapError = .other := classify_noDecoder 5 rfl
@[simp] theorem classify_stdJoin : classify k_stdJoin = .other := classify_noDecoder 6 rfl
@[simp] theorem classify_fmtWrapErrors : classify k_fmtWrapErrors = .other := classify_noDecoder 7 rfl

theorem family_base_of_ne {P : Proc} (h : P.reg = baseReg) {t : Str} (ht : t ≠ b!"io/fs/*fs.PathError") :
    P.family t = t := by
  have hb : (t == b!"io/fs/*fs.PathError") = false := by simpa using ht
  simp [Proc.family, h, baseReg, hb]

theorem family_base_pathError {P : Proc} (h : P.reg = baseReg) :
    P.family (b!"io/fs/*fs.PathError") = osPathErrorKey := by
  unfold Proc.family; rw [h]; rfl

end ErrModel
