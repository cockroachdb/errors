import ErrModel.Basic.RedactT
/-
  Line-level well-formedness of redactable token strings, and the redact contract lemmas:
  `EscapeBytes` and `Sprintf` (as modelled in Basic/RedactT.lean) produce well-formed strings.

  `lw st t` scans `t` from the state `st` ("inside a pair of markers?"): an open marker is only
  legal outside, a close marker only inside, a newline only outside, and a byte labelled UNSAFE
  (`Tok.u`) only inside.  `LW t`: starts and ends outside.  This is "markers balanced, never
  nested, balanced within every line" (C06) together with "what was written from an unsafe
  source is enclosed" (C03).
-/
namespace ErrModel

def lw : Bool → Toks → Option Bool
  | st, [] => some st
  | st, .op :: r => if st then none else lw true r
  | st, .cl :: r => if st then lw false r else none
  | st, .b c :: r => if c = nl && st then none else lw st r
  | st, .u c :: r => if st && c ≠ nl then lw st r else none

def LW (t : Toks) : Prop := lw false t = some false

theorem lw_append (st : Bool) (a b : Toks) : lw st (a ++ b) = (lw st a).bind (fun s => lw s b) := by
  induction a generalizing st with
  | nil => simp [lw]
  | cons x r ih =>
    cases x with
    | op | cl => cases st <;> simp [lw, ih]
    | b c | u c => simp only [List.cons_append, lw]; split <;> simp [ih]

theorem LW_append {a b : Toks} (ha : LW a) (hb : LW b) : LW (a ++ b) := by
  unfold LW at *; rw [lw_append, ha]; simpa using hb

theorem LW_nil : LW [] := rfl

theorem lw_bytes_closed (s : Str) : lw false (bytesT s) = some false := by
  induction s with
  | nil => rfl
  | cons c r ih => simp [bytesT, lw] at ih ⊢; exact ih

theorem LW_bytes (s : Str) : LW (bytesT s) := lw_bytes_closed s

theorem lw_bytes_noNl (st : Bool) (s : Str) (h : ∀ c ∈ s, c ≠ nl) : lw st (bytesT s) = some st := by
  induction s with
  | nil => rfl
  | cons c r ih =>
    have hc : c ≠ nl := h c (by simp)
    simp [bytesT, lw, hc] at ih ⊢
    exact ih (fun x hx => h x (by simp [hx]))

theorem lw_bytes_state (st st' : Bool) (s : Str) (h : lw st (bytesT s) = some st') : st' = st := by
  induction s with
  | nil => simp [bytesT, lw] at h; exact h.symm
  | cons c r ih =>
    simp only [bytesT, List.map_cons, lw] at h
    split at h
    · simp at h
    · exact ih h

@[simp] theorem lw_concat_op (st st' : Bool) (d : Toks) :
    lw st (d ++ [.op]) = some st' ↔ lw st d = some false ∧ st' = true := by
  rw [lw_append]; cases lw st d with
  | none => simp
  | some s => cases s <;> simp [lw, eq_comm]

@[simp] theorem lw_concat_cl (st st' : Bool) (d : Toks) :
    lw st (d ++ [.cl]) = some st' ↔ lw st d = some true ∧ st' = false := by
  rw [lw_append]; cases lw st d with
  | none => simp
  | some s => cases s <;> simp [lw, eq_comm]

theorem lw_dropLast_op {t : Toks} (h : lw false t = some true) (hl : t.getLast? = some .op) :
    lw false t.dropLast = some false := by
  obtain ⟨d, rfl⟩ := List.getLast?_eq_some_iff.mp hl
  simpa using h

theorem lw_open_ne_nil {t : Toks} (h : lw false t = some true) : t ≠ [] := by
  intro h0; subst h0; simp [lw] at h

/-! ### the escape loop is a fold, token by token, over the lexed content -/

/-- closing an enclosure removes it when it is empty (`endRedactable`, and the escape loop at a newline) -/
def closeT (t : Toks) : Toks := if t.getLast? = some .op then t.dropLast else t ++ [.cl]

theorem closeT_concat_op (d : Toks) : closeT (d ++ [.op]) = d := by simp [closeT]

theorem closeT_cases (t : Toks) : (∃ d, t = d ++ [.op] ∧ closeT t = d) ∨ closeT t = t ++ [.cl] := by
  unfold closeT; split
  · obtain ⟨d, rfl⟩ := List.getLast?_eq_some_iff.mp ‹_›
    exact .inl ⟨d, rfl, List.dropLast_concat⟩
  · exact .inr rfl

theorem lw_closeT {t : Toks} (h : lw false t = some true) : lw false (closeT t) = some false := by
  obtain ⟨d, rfl, e⟩ | e := closeT_cases t <;> rw [e] <;> simpa using h

theorem escLoopT_nl (acc : Toks) (r : Str) :
    escLoopT true acc (nl :: r) =
      escLoopT true (closeT acc ++ nlT :: bytesT (r.takeWhile (· = nl)) ++ [.op]) (r.dropWhile (· = nl)) := by
  rw [escLoopT]
  · simp [closeT]
  -- the catch-all equation of `escLoopT` asks that the byte does not begin a marker rune
  · intro r1 h1; simp [nl] at h1
  · intro r1 h1; simp [nl] at h1

/-- a run of newlines may as well be escaped one newline at a time: the enclosure reopened after
    one newline is empty, and is elided again before the next -/
theorem escLoopT_nl1 (acc : Toks) (r : Str) :
    escLoopT true acc (nl :: r) = escLoopT true (closeT acc ++ [nlT, .op]) r := by
  rw [escLoopT_nl]
  cases r with
  | nil => simp [bytesT]
  | cons c r' =>
    by_cases hc : c = nl
    · subst hc
      have : closeT (closeT acc ++ [nlT, .op]) = closeT acc ++ [nlT] := by
        rw [show closeT acc ++ [nlT, .op] = (closeT acc ++ [nlT]) ++ [.op] by simp, closeT_concat_op]
      rw [escLoopT_nl (closeT acc ++ [nlT, .op]), this]
      simp [bytesT, nlT]
    · simp [hc, bytesT]

/-- what the escape loop does with one token of the content -/
def escStep (brk : Bool) (acc : Toks) : Tok → Toks
  | .op | .cl => acc ++ [qT]
  | .b c | .u c => if brk && c = nl then closeT acc ++ [nlT, .op] else acc ++ [if brk then .u c else .b c]

theorem escLoopT_eq_foldl (brk : Bool) (acc : Toks) (s : Str) :
    escLoopT brk acc s = (lex s).foldl (escStep brk) acc := by
  fun_induction lex s generalizing acc with
  | case1 r ih => rw [escLoopT, ih]; rfl   -- an open marker rune
  | case2 r ih => rw [escLoopT, ih]; rfl   -- a close marker rune
  | case3 x r h1 h2 ih =>                  -- any other byte
    simp only [List.foldl_cons, escStep, ← ih]
    split
    · rename_i hc
      simp only [Bool.and_eq_true, decide_eq_true_eq] at hc
      obtain ⟨rfl, rfl⟩ := hc
      exact escLoopT_nl1 acc r
    · rename_i hc
      rw [escLoopT]
      · simp [hc]
      · exact fun r1 hx hr => h1 r1 hx hr
      · exact fun r1 hx hr => h2 r1 hx hr
  | case4 => rw [escLoopT]; rfl            -- the end of the content

theorem escLoopT_false (acc : Toks) (s : Str) : escLoopT false acc s = acc ++ bytesT (escapeMarkers s) := by
  rw [escLoopT_eq_foldl, escapeMarkers]
  generalize lex s = l
  induction l generalizing acc with
  | nil => simp [escToks, bytesT]
  | cons t l ih => cases t <;> simp [ih, escStep, escToks, bytesT, qT, qmark]

theorem lw_escStep_true {acc : Toks} (h : lw false acc = some true) (t : Tok) :
    lw false (escStep true acc t) = some true := by
  cases t with
  | op | cl => simp [escStep, lw_append, h, lw, qT, qmark, nl]
  | b c | u c =>
    simp only [escStep, Bool.true_and, decide_eq_true_eq, if_true]
    split
    · simp [lw_append, lw_closeT h, lw, nlT]
    · simp [lw_append, lw, *]

theorem escLoopT_true_open (acc : Toks) (s : Str) : lw false acc = some true →
    lw false (escLoopT true acc s) = some true := by
  rw [escLoopT_eq_foldl]
  exact fun h => (lex s).foldlRecOn (motive := (lw false · = some true)) _ h fun _ ha t _ => lw_escStep_true ha t

theorem escLoopT_false_closed (acc : Toks) (s : Str) : lw false acc = some false →
    lw false (escLoopT false acc s) = some false := by
  intro h; rw [escLoopT_false, lw_append, h]; exact LW_bytes _

/-! ### the moves of the buffer, on its finished tokens -/

/-- `RBT.escapeToEnd` (InternalEscapeBytes) on tokens -/
def escEndT (brk : Bool) (d : Toks) (p : Str) : Toks :=
  escLoopT brk d p ++ if lastRuneInvalid (unlex d ++ p) then [qT] else []

/-- opening an enclosure right after one was closed reopens that one (`startRedactable`) -/
def openT (t : Toks) : Toks := if t.getLast? = some .cl then t.dropLast else t ++ [.op]

theorem openT_cases (t : Toks) : (∃ d, t = d ++ [.cl] ∧ openT t = d) ∨ openT t = t ++ [.op] := by
  unfold openT; split
  · obtain ⟨d, rfl⟩ := List.getLast?_eq_some_iff.mp ‹_›
    exact .inl ⟨d, rfl, List.dropLast_concat⟩
  · exact .inr rfl

theorem RBT.escapeToEnd_eq (r : RBT) (brk : Bool) :
    r.escapeToEnd brk = { r with done := escEndT brk r.done r.pend, pend := [] } := by
  unfold RBT.escapeToEnd escEndT; split <;> simp [*]

theorem RBT.startRedactable_eq (r : RBT) : r.startRedactable = { r with done := openT r.done, opened := true } := by
  unfold RBT.startRedactable openT; split <;> rfl

theorem RBT.endRedactable_eq (r : RBT) (h : r.done ≠ []) :
    r.endRedactable = { r with done := closeT r.done, opened := false } := by
  unfold RBT.endRedactable closeT; rw [if_neg h]; split <;> rfl

theorem escapeBytesT_eq (s : Str) : escapeBytesT s = escEndT true [.op] s ++ [.cl] := by
  rw [escapeBytesT, escEndT, show unlex [.op] = mOpen from rfl]; split <;> simp

/-- escaping keeps the marker state: unsafe text stays inside its enclosure, safe text outside -/
theorem lw_escEndT (brk : Bool) {d : Toks} (h : lw false d = some brk) (p : Str) : lw false (escEndT brk d p) = some brk := by
  have : lw false (escLoopT brk d p) = some brk := by
    cases brk
    · exact escLoopT_false_closed d p h
    · exact escLoopT_true_open d p h
  rw [escEndT, lw_append, this]; cases brk <;> split <;> rfl

theorem lw_openT {t : Toks} (h : lw false t = some false) : lw false (openT t) = some true := by
  obtain ⟨d, rfl, e⟩ | e := openT_cases t <;> rw [e] <;> simpa using h

/-- redact.EscapeBytes yields a well-formed redactable string, whatever the bytes -/
theorem LW_escapeBytesT (s : Str) : LW (escapeBytesT s) := by
  rw [LW, escapeBytesT_eq, lw_concat_cl]; exact ⟨lw_escEndT true rfl s, rfl⟩

theorem RBT.escapeToEnd_closed (r : RBT) (h : lw false r.done = some false) :
    lw false (r.escapeToEnd false).done = some false := by
  rw [RBT.escapeToEnd_eq]; exact lw_escEndT false h _

theorem RBT.escapeToEnd_open (r : RBT) (h : lw false r.done = some true) :
    lw false (r.escapeToEnd true).done = some true := by
  rw [RBT.escapeToEnd_eq]; exact lw_escEndT true h _

theorem RBT.escapeToEnd_fields (r : RBT) (b : Bool) :
    (r.escapeToEnd b).mode = r.mode ∧ (r.escapeToEnd b).opened = r.opened ∧ (r.escapeToEnd b).pend = [] := by
  rw [RBT.escapeToEnd_eq]; exact ⟨rfl, rfl, rfl⟩

theorem RBT.startRedactable_open (r : RBT) (h : lw false r.done = some false) :
    lw false r.startRedactable.done = some true ∧ r.startRedactable.opened = true ∧
    r.startRedactable.mode = r.mode := by
  rw [RBT.startRedactable_eq]; exact ⟨lw_openT h, rfl, rfl⟩

theorem RBT.endRedactable_closed (r : RBT) (h : lw false r.done = some true) :
    lw false r.endRedactable.done = some false ∧ r.endRedactable.opened = false ∧
    r.endRedactable.mode = r.mode := by
  rw [RBT.endRedactable_eq r (lw_open_ne_nil h)]; exact ⟨lw_closeT h, rfl, rfl⟩

/-! ### the buffer: between two pieces of a Sprintf it is in safe mode, closed, well-formed -/

structure RBT.Inv (r : RBT) : Prop where
  mode : r.mode = .safeE
  closed : r.opened = false
  lwDone : lw false r.done = some false

theorem RBT.seg_lit (r : RBT) (hm : r.mode = .safeE) (s : Str) : r.seg (.lit s) = { r with pend := r.pend ++ s } := by
  simp [RBT.seg, RBT.setMode, RBT.write, hm]

theorem RBT.seg_preT (r : RBT) (hm : r.mode = .safeE) (hc : r.opened = false) (t : Toks) :
    r.seg (.preT t) = ⟨escEndT false r.done r.pend ++ t, [], .safeE, false⟩ := by
  simp [RBT.seg, RBT.setMode, RBT.writeToks, hm, hc, RBT.escapeToEnd_eq]

theorem RBT.seg_pre (r : RBT) (hm : r.mode = .safeE) (hc : r.opened = false) (s : Str) :
    r.seg (.pre s) = ⟨escEndT false r.done r.pend ++ lexL s, [], .safeE, false⟩ := by
  simp [RBT.seg, RBT.setMode, RBT.write, hm, hc, RBT.escapeToEnd_eq]

theorem lw_arg_unclosed {d : Toks} (h : lw false d = some false) (p s : Str) :
    lw false (escEndT true (openT (escEndT false d p)) s) = some true :=
  lw_escEndT true (lw_openT (lw_escEndT false h p)) s

theorem RBT.seg_arg (r : RBT) (h : r.Inv) (s : Str) :
    r.seg (.arg s) = ⟨closeT (escEndT true (openT (escEndT false r.done r.pend)) s), [], .safeE, false⟩ := by
  simp [RBT.seg, RBT.setMode, RBT.write, h.mode, h.closed, RBT.escapeToEnd_eq, RBT.startRedactable_eq, RBT.endRedactable_eq,
    lw_open_ne_nil (lw_arg_unclosed h.lwDone r.pend s)]

theorem RBT.finalize_done (r : RBT) (hm : r.mode = .safeE) (hc : r.opened = false) :
    r.finalize.done = escEndT false r.done r.pend := by
  simp [RBT.finalize, hm, hc, RBT.escapeToEnd_eq]

theorem RBT.Inv_lit (r : RBT) (h : r.Inv) (s : Str) : (r.seg (.lit s)).Inv := by
  rw [RBT.seg_lit r h.mode]; exact ⟨h.mode, h.closed, h.lwDone⟩

theorem RBT.Inv_preT (r : RBT) (h : r.Inv) (t : Toks) (ht : LW t) : (r.seg (.preT t)).Inv := by
  rw [RBT.seg_preT r h.mode h.closed]; exact ⟨rfl, rfl, LW_append (lw_escEndT false h.lwDone _) ht⟩

theorem RBT.Inv_pre (r : RBT) (h : r.Inv) (s : Str) (hs : LW (lexL s)) : (r.seg (.pre s)).Inv := by
  rw [RBT.seg_pre r h.mode h.closed]; exact ⟨rfl, rfl, LW_append (lw_escEndT false h.lwDone _) hs⟩

theorem RBT.Inv_arg (r : RBT) (h : r.Inv) (s : Str) : (r.seg (.arg s)).Inv := by
  rw [RBT.seg_arg r h]; exact ⟨rfl, rfl, lw_closeT (lw_arg_unclosed h.lwDone r.pend s)⟩

theorem RBT.reset_safe : RBT.reset.setMode .safeE = ⟨[], [], .safeE, false⟩ := by
  simp [RBT.reset, RBT.setMode, RBT.escapeToEnd_eq, escEndT, escLoopT, lastRuneInvalid, unlex]

theorem RBT.Inv_init : (RBT.reset.setMode .safeE).Inv := by
  rw [RBT.reset_safe]; exact ⟨rfl, rfl, rfl⟩

/-- the pieces a Sprintf may be given: an already redactable piece must be well-formed -/
def SegT.ok : SegT → Prop
  | .lit _ => True
  | .arg _ => True
  | .pre s => LW (lexL s)
  | .preT t => LW t

@[simp] theorem SegT.ok_lit (s : Str) : (SegT.lit s).ok ↔ True := Iff.rfl
@[simp] theorem SegT.ok_arg (s : Str) : (SegT.arg s).ok ↔ True := Iff.rfl
@[simp] theorem SegT.ok_pre (s : Str) : (SegT.pre s).ok ↔ LW (lexL s) := Iff.rfl
@[simp] theorem SegT.ok_preT (t : Toks) : (SegT.preT t).ok ↔ LW t := Iff.rfl

theorem RBT.Inv_seg (r : RBT) (h : r.Inv) (g : SegT) (hg : g.ok) : (r.seg g).Inv := by
  cases g with
  | lit s => exact RBT.Inv_lit r h s
  | arg s => exact RBT.Inv_arg r h s
  | pre s => exact RBT.Inv_pre r h s hg
  | preT t => exact RBT.Inv_preT r h t hg

theorem RBT.Inv_foldl (segs : List SegT) (r : RBT) (h : r.Inv) (hs : ∀ g ∈ segs, g.ok) :
    (segs.foldl RBT.seg r).Inv :=
  segs.foldlRecOn RBT.seg h fun r hr g hg => RBT.Inv_seg r hr g (hs g hg)

/-- redact.Sprintf yields a well-formed redactable string, whatever the safe and unsafe
    pieces contain, provided the redactable pieces it is given are well-formed -/
theorem LW_assembleT (segs : List SegT) (hs : ∀ g ∈ segs, g.ok) : LW (assembleT segs) := by
  have h := RBT.Inv_foldl segs _ RBT.Inv_init hs
  rw [LW, assembleT, RBT.finalize_done _ h.mode h.closed]
  exact lw_escEndT false h.lwDone _

/-! ### Redact keeps a well-formed string well-formed -/

/-- `Redact()` as a one-pass filter, right for well-formed strings (`redactT_eq`): `‹×›` is written
    at an open marker and everything up to the close marker is dropped (`st`: inside).  A labelled byte
    outside, which no well-formed string has, is copied without its label: `lw_redactW` and `noU_redactW`
    then hold of every string. -/
def redactW : Bool → Toks → Toks
  | _, [] => []
  | _, .op :: r => redactedT ++ redactW true r
  | _, .cl :: r => redactW false r
  | st, .b c :: r => if st then redactW st r else .b c :: redactW st r
  | st, .u c :: r => if st then redactW st r else .b c :: redactW st r

theorem redactedT_lw : lw false redactedT = some false := by decide

/-- inside a well-formed enclosure `spanBytes` finds the close marker, over bytes that the filter drops -/
theorem spanBytes_inside : (r : Toks) → lw true r = some false →
    ∃ bs r', spanBytes r = (bs, .cl :: r') ∧ lw false r' = some false ∧ redactW true r = redactW false r'
  | [], h => by simp [lw] at h
  | .op :: _, h => by simp [lw] at h
  | .cl :: r, h => ⟨[], r, rfl, by simpa [lw] using h, rfl⟩
  | .b c :: r, h | .u c :: r, h => by
    obtain ⟨bs, r', e, h', e'⟩ := spanBytes_inside r (by simp [lw] at h; exact h.2)
    exact ⟨c :: bs, r', by simp [spanBytes, e], h', by simpa [redactW] using e'⟩

theorem redactT_eq (t : Toks) : LW t → redactT t = redactW false t := by
  unfold LW
  fun_induction redactT t with
  | case1 => intro _; rfl        -- the end
  | case2 r bs r' hsp _ ih =>    -- an open marker, its close marker found
    intro h
    obtain ⟨_, _, e, h', e'⟩ := spanBytes_inside r (by simpa [lw] using h)
    obtain ⟨rfl, rfl⟩ : _ = bs ∧ _ = r' := by simpa [hsp] using e.symm
    rw [redactW, e', ih h']
  | case3 r hno ih =>            -- an open marker, no close marker found: not well-formed
    intro h
    obtain ⟨_, _, e, _⟩ := spanBytes_inside r (by simpa [lw] using h)
    exact absurd e (hno _ _)
  | case4 r ih => intro h; simp [lw] at h    -- a close marker outside: not well-formed
  | case5 x r ih =>                          -- a plain byte outside
    intro h; simp only [lw, Bool.and_false, Bool.false_eq_true, if_false] at h; simp [redactW, ih h]
  | case6 x r ih => intro h; simp [lw] at h    -- a labelled byte outside: not well-formed

theorem lw_redactW (st : Bool) (t : Toks) : lw false (redactW st t) = some false := by
  induction t generalizing st with
  | nil => rfl
  | cons x r ih => cases x <;> cases st <;> simp [redactW, lw, lw_append, redactedT_lw, ih]

theorem LW_redactT (t : Toks) : LW t → LW (redactT t) :=
  fun h => by rw [redactT_eq t h]; exact lw_redactW false t

end ErrModel
