import ErrModel.Proofs.Is
import ErrModel.Shape
/-
  `Is` depends on the candidate only through its labelled shape (identity aside):
  so whatever preserves the labelled shape — a network hop — preserves `Is`.
-/
namespace ErrModel

variable (vf : Err → Str)

def TTree.lbl : TTree → Lbl
  | .node l _ => l
def TTree.kids : TTree → List TTree
  | .node _ k => k

/-- the labels along the single-cause chain, read off the labelled shape: a node with one child that is
    not a multi-cause node continues the chain -/
def chainT : TTree → List Lbl
  | .node l kids => l :: match l.multi, kids with
    | false, [k] => chainT k
    | _, _ => []

def markT (t : TTree) : Mark :=
  match t.lbl.stored with
  | some m => m
  | none => ⟨t.lbl.text, (chainT t).map (·.tmark)⟩

/-- the `Is` method of a layer (errno-like, or a gRPC status), from the label (with the very matches of `isMethod`, so that the two
    unfold to the same term) -/
def isMethodL (l : Lbl) (r : Err) : Bool :=
  match l.isSig, l.stSig with
  | some (perm, exist, notExist), _ =>
    (!r.isValueKind) && ((r.id = idErrPermission && perm) || (r.id = idErrExist && exist) || (r.id = idErrNotExist && notExist))
  | none, some (c, m, nd) =>
    (match r with
    | .leaf _ (.grpcStatus c' m' nd') => c = c' && m = m' && nd = nd'
    | _ => false)
  | none, none => false

mutual
def reachT : TTree → List TTree
  | .node l kids => .node l kids :: reachTL kids
def reachTL : List TTree → List TTree
  | [] => []
  | t :: r => reachT t ++ reachTL r
end

/-- identity-free `Is` on labelled shapes -/
def isT (rm : Mark) (r : Err) (t : TTree) : Bool :=
  (reachT t).any (fun n => isMethodL n.lbl r || markEquiv (markT n) rm)

theorem chainT_shape : (e : Err) → chainT (shape vf e) = (chain e).map (label vf)
  | .leaf .. | .barrier .. | .multi .. => rfl
  | .wrap id k c => congrArg (label vf (.wrap id k c) :: ·) (chainT_shape c)
  | .second id c s => congrArg (label vf (.second id c s) :: ·) (chainT_shape c)

theorem shape_lbl (e : Err) : (shape vf e).lbl = label vf e := by
  cases e <;> simp [shape, TTree.lbl]

theorem getMark_eq (P : Proc) (e : Err) :
    getMark P e = match storedMark e with | some m => m | none => ⟨text e, (chain e).map (typeMark P)⟩ := by
  cases e with
  | wrap id k c => cases k <;> rfl
  | _ => rfl

theorem markT_shape (e : Err) : markT (shape vf e) = getMark Full e := by
  rw [getMark_eq, markT, shape_lbl, chainT_shape, List.map_map]; rfl

theorem isMethodL_label (e r : Err) : isMethodL (label vf e) r = isMethod e r := by
  cases e with
  | leaf id k => cases k <;> rfl
  | _ => rfl

mutual
theorem reachT_shape : (e : Err) → reachT (shape vf e) = (reach e).map (shape vf)
  | .leaf id k => by simp [shape, reachT, reachTL, reach]
  | .barrier id m h => by simp [shape, reachT, reachTL, reach]
  | .wrap id k c => by simp [shape, reachT, reachTL, reach, reachT_shape c]
  | .second id c s => by simp [shape, reachT, reachTL, reach, reachT_shape c]
  | .multi id k cs => by simp [shape, reachT, reach, reachTL_shape cs]
theorem reachTL_shape : (cs : List Err) → reachTL (shapeL vf cs) = (reachL cs).map (shape vf)
  | [] => by simp [shapeL, reachTL, reachL]
  | e :: r => by simp [shapeL, reachTL, reachL, reachT_shape e, reachTL_shape r]
end

/-- the identity-free part of `Is` -/
def isNoId (e r : Err) : Bool :=
  (reach e).any (fun n => isMethod n r || markEquiv (getMark Full n) (getMark Full r))

theorem isNoId_eq_isT (e r : Err) : isNoId e r = isT (getMark Full r) r (shape vf e) := by
  unfold isNoId isT
  rw [reachT_shape, List.any_map]
  congr 1
  funext n
  simp [Function.comp, shape_lbl, isMethodL_label, markT_shape]

/-- Coherence of identities: an identity match implies a mark match.  Whenever a layer of `e` is the very object `r`
    (Go `==`), their marks agree — true of real objects (same object, same mark). -/
def NoIdMatch (e r : Err) : Prop :=
  ∀ n ∈ reach e, goEq n r = true → markEquiv (getMark Full n) (getMark Full r) = true

theorem isB_eq_isNoId (e r : Err) (h : NoIdMatch e r) : isB Full e r = isNoId e r := by
  rw [isB_char]
  refine any_congr_mem fun n hn => ?_
  unfold layerMatch selfMatch
  cases hg : goEq n r
  · rfl
  · rw [h n hn hg, Bool.or_true, Bool.or_true]

/-- errors with the same labelled shape are matched by the same references -/
theorem isB_congr_shape (e e' r : Err) (hs : shape vf e' = shape vf e)
    (h : NoIdMatch e r) (h' : NoIdMatch e' r) : isB Full e' r = isB Full e r := by
  rw [isB_eq_isNoId e r h, isB_eq_isNoId e' r h', isNoId_eq_isT, isNoId_eq_isT, hs]

theorem marks_congr_shape (e e' : Err) (hs : shape vf e' = shape vf e) :
    (reach e').map (getMark Full) = (reach e).map (getMark Full) := by
  have h (x : Err) : (reach x).map (getMark Full) = (reachT (shape vf x)).map markT := by
    simp only [reachT_shape, List.map_map, Function.comp_def, markT_shape]
  rw [h, h, hs]

theorem getMark_congr_shape (r r' : Err) (hs : shape vf r' = shape vf r) : getMark Full r' = getMark Full r := by
  rw [← markT_shape, ← markT_shape, hs]

end ErrModel
