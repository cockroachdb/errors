import ErrModel.Engine
/-
  Structural facts about the formatting engine: the entries it collects, their order and
  type names, independent of string contents.
-/
namespace ErrModel

mutual
/-- the visible layers in the order `formatRecursive` collects them (causes first) -/
def postLayers : Err → List Err
  | .leaf id k => [.leaf id k]
  | .barrier id m h => [.barrier id m h]
  | .wrap id k c => postLayers c ++ [.wrap id k c]
  | .second id c s => postLayers c ++ [.second id c s]
  | .multi id k cs => postLayersL cs ++ [.multi id k cs]
def postLayersL : List Err → List Err
  | [] => []
  | e :: r => postLayers e ++ postLayersL r
end

@[simp] theorem collect_tstr (s : LState) (a b c : Bool) (d : Nat) (t : Str) : (collect s a b c d t).tstr = t := by
  unfold collect; simp only []

@[simp] theorem markElided_tstr (l : List Entry) : (markElided l).map (·.tstr) = l.map (·.tstr) := by
  simp [markElided, List.map_map, Function.comp_def]

@[simp] theorem ite_markElided_tstr (b : Bool) (l : List Entry) :
    (if b = true then markElided l else l).map (·.tstr) = l.map (·.tstr) := by
  split <;> simp

@[simp] theorem markElided_length (l : List Entry) : (markElided l).length = l.length := by
  simp [markElided]

@[simp] theorem withStackOf_tstr (en : Entry) (ls : Stack) (st : Option Stack) : (withStackOf en ls st).1.tstr = en.tstr := by
  unfold withStackOf; split <;> rfl

/-- `%T` of a layer -/
def tyS (n : Err) : Str := n.ty.tstr
@[simp] theorem tyS_leaf (id : Ident) (k : LeafKind) : tyS (.leaf id k) = k.ty.tstr := rfl
@[simp] theorem tyS_barrier (id : Ident) (m : BarrierMsg) (h : Err) : tyS (.barrier id m h) = tnBarrier.tstr := rfl
@[simp] theorem tyS_wrap (id : Ident) (k : WrapKind) (c : Err) : tyS (.wrap id k c) = k.ty.tstr := rfl
@[simp] theorem tyS_second (id : Ident) (c s : Err) : tyS (.second id c s) = tnSecondary.tstr := rfl
@[simp] theorem tyS_multi (id : Ident) (k : MultiKind) (cs : List Err) : tyS (.multi id k cs) = k.ty.tstr := rfl

theorem ents_leaf_tstr (red detail : Bool) (id : Ident) (k : LeafKind) (o wd : Bool) (d : Nat) (ls : Stack) :
    (ents red detail (.leaf id k) o wd d ls).1.map (·.tstr) = [k.ty.tstr] := by
  unfold ents
  simp only [Err.ty]
  -- the leaf clause of `ents`: a type with a script; pkg/errors' fundamental (two cases); a safe sentinel; an errno; the rest
  split
  · simp
  · split
    · split <;> simp
    · split
      · simp
      · split <;> simp

mutual
theorem ents_tstr (red detail : Bool) : (e : Err) → (o wd : Bool) → (d : Nat) → (ls : Stack) →
    (ents red detail e o wd d ls).1.map (·.tstr) = (postLayers e).map tyS
  | .leaf id k, o, wd, d, ls => by
    rw [ents_leaf_tstr]; simp [postLayers]
  | .barrier id m h, o, wd, d, ls => by
    unfold ents; simp [postLayers]
  | .wrap id k c, o, wd, d, ls => by
    have ih := ents_tstr red detail c false wd (d + 1) ls
    unfold ents
    simp only [postLayers, List.map_append, List.map_cons, List.map_nil, tyS_wrap, withStackOf_tstr, collect_tstr, ← ih,
      ite_markElided_tstr, Err.ty]
  | .second id c s, o, wd, d, ls => by
    have ih := ents_tstr red detail c false wd (d + 1) ls
    unfold ents
    simp only [postLayers, List.map_append, List.map_cons, List.map_nil, tyS_second, collect_tstr, ← ih]
  | .multi id k cs, o, wd, d, ls => by
    have ih := entsL_tstr red detail cs (d + 1) ls
    unfold ents
    simp only [postLayers, List.map_append, List.map_cons, List.map_nil, tyS_multi, ← ih]
    split <;> simp [Err.ty]
theorem entsL_tstr (red detail : Bool) : (es : List Err) → (d : Nat) → (ls : Stack) →
    (entsL red detail es d ls).1.map (·.tstr) = (postLayersL es).map tyS
  | [], d, ls => by simp [entsL, postLayersL]
  | e :: r, d, ls => by
    unfold entsL
    simp only [postLayersL, List.map_append]
    rw [ents_tstr red detail e false true d ls, entsL_tstr red detail r d _]
end

end ErrModel
