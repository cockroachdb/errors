import ErrModel.Proofs.Layer
/-
  One hop from a process that knows every library type to a process `Sub S` that knows the type keys in `S`
  (`Sub (fun _ => true)` is `Full`).  Layer by layer the receiver either rebuilds the layer with its decoder
  (key in `S`, decoder registered) or keeps an opaque stand-in built from the wire node.  `Received` says what
  survives; `received` proves it by one induction over the tree, from one lemma per constructor.  The
  statements about knowing processes (`hop_ok_enc`, Props/C01) and about arbitrary subsets (`hopQ_ok`,
  Props/C04) are its two instances.  Last section: the type name and mark of every visible layer are on the
  wire (`wireNames_encode`), so every receiver keeps them (`hopQ_names`).
-/
namespace ErrModel

/-- the process that has exactly the type keys in `S` registered (same migration registry and architecture) -/
def Sub (S : Str → Bool) : Proc := ⟨baseReg, S, archHere⟩

@[simp] theorem Sub_knows (S : Str → Bool) (k : Str) : (Sub S).knows k = S k := rfl
@[simp] theorem Sub_arch (S : Str → Bool) : (Sub S).arch = archHere := rfl
theorem Sub_true : Sub (fun _ => true) = Full := rfl

@[simp] theorem typeMark_Sub (S : Str → Bool) (e : Err) : typeMark (Sub S) e = typeMark Full e := rfl
@[simp] theorem typeKey_Sub (S : Str → Bool) (e : Err) : typeKey (Sub S) e = typeKey Full e := rfl
@[simp] theorem detOf_Sub (S : Str → Bool) (e : Err) (rep : List Str) (pay : Pay) : detOf (Sub S) e rep pay = detOf Full e rep pay := rfl

@[simp] theorem layerDetails_Sub (S : Str → Bool) (vf : Err → Str) : (e : Err) → layerDetails (Sub S) vf e = layerDetails Full vf e :=
  fun e => (details_congr_reg (P := Sub S) (Q := Full) rfl vf e).1
theorem chainFill_Sub (S : Str → Bool) (vf : Err → Str) : (e : Err) → chainFill (Sub S) vf e = chainFill Full vf e :=
  fun e => (details_congr_reg (P := Sub S) (Q := Full) rfl vf e).2


/-- the Error() text an unknowing process shows for a wire message -/
def wireText : Enc → Str
  | .leaf msg _ _ _ => msg
  | .wrap msg _ mt _ cause => opaqueText msg mt (wireText cause)

/-- wrappers whose wire message lets an unknowing process show the origin's text -/
def wrapFaithful (k : WrapKind) : Bool :=
  match k with
  | .withPrefix p => p = [] || stripMarkers p ≠ []
  | .pkgWithMessage m => m ≠ []
  | .syscallError sc => sc ≠ []
  | _ => true

theorem wire_wrap_text {vf : Err → Str} {id : Ident} {k : WrapKind} {c : Err}
    (h : wrapStable k (text c) = true) (hf : wrapFaithful k = true)
    {msg : Str} {d : Det} {mt : Nat} {hid : List Enc} {w : Enc}
    (hw : encode Full vf (.wrap id k c) = .wrap msg d mt hid w) :
    opaqueText msg mt (text c) = text (.wrap id k c) := by
  cases k with
  | fmtWrapError m =>
    cases hw
    exact extract_reassemble m (text c) (by simpa [wrapStable] using h)
  | user u m =>
    cases hw
    simp only [wrapStable, Bool.and_eq_true] at h
    simp only [text, wrapText]
    by_cases h0 : u.style = 0
    · have : m ≠ [] := by simpa [h0] using h.2
      simp only [h0, if_true, extractPrefix_pfx, opaqueText_prefix, if_neg this]
    · by_cases h1 : u.style = 1
      · simp only [h1, if_true]
        exact extract_reassemble m (text c) (by simpa [h0, h1] using h.2)
      · simp only [h0, h1, if_false, extractPrefix_self]
        rfl
  | withPrefix p =>
    cases hw
    simp only [wrapFaithful, Bool.or_eq_true, decide_eq_true_eq] at hf
    simp only [text, wrapText, opaqueText_prefix]
    by_cases hp : p = []
    · subst hp; rfl
    · rw [if_neg (hf.resolve_left hp), if_neg hp]
  | pkgWithMessage m =>
    cases hw
    simp only [text, wrapText, extractPrefix_pfx, opaqueText_prefix]
    exact if_neg (by simpa [wrapFaithful] using hf)
  | syscallError m =>
    cases hw
    simp only [text, wrapText, opaqueText_prefix]
    exact if_neg (by simpa [wrapFaithful] using hf)
  | opaqueWrapper p d mt hid => cases hw; rfl
  | _ =>
    -- the annotations send an empty prefix, `withNewMessage` its whole text, path and link errors a prefix that `sp` makes non-empty
    cases hw
    simp [text, wrapText, extractPrefix_self, opaqueText_prefix, opaqueText_full, sp]

/-- leaves whose wire message is their Error() text (not so for gRPC status errors: recorded finding D13) -/
def leafFaithful (k : LeafKind) : Bool :=
  match k with
  | .grpcStatus .. => false
  | .gogoStatus .. => false
  | _ => true

theorem wire_leaf_text {vf : Err → Str} {id : Ident} {k : LeafKind} (hf : leafFaithful k = true)
    {msg : Str} {d : Det} {hid cs : List Enc} (hw : encode Full vf (.leaf id k) = .leaf msg d hid cs) :
    msg = text (.leaf id k) := by
  cases k <;> first | (cases hw; rfl) | cases hf

section
variable (S : Str → Bool) (vf : Err → Str)

/-- `e'` is what the process `Sub S` has after receiving `e` from a knowing process: decoding gave `e'`, which
    re-encodes to the very message that arrived and shows the origin's text; a process that knows every
    type sees the origin's labelled tree, and has a stable error again -/
structure Received (path : List Nat) (e e' : Err) : Prop where
  dec : decode (Sub S) path (encode Full vf e) = some e'
  enc : encode (Sub S) vf e' = encode Full vf e
  text : text e' = text e
  full : (∀ k, S k = true) → shape vf e' = shape vf e ∧ stable e' = true

structure ReceivedL (path : List Nat) (i : Nat) (cs cs' : List Err) : Prop where
  dec : decodeList (Sub S) path i (encodeList Full vf cs) = some cs'
  enc : encodeList (Sub S) vf cs' = encodeList Full vf cs
  text : textList cs' = textList cs
  full : (∀ k, S k = true) → shapeL vf cs' = shapeL vf cs ∧ stableL cs' = true

theorem ReceivedL.length {S : Str → Bool} {vf : Err → Str} {path : List Nat} {i : Nat} {cs cs' : List Err}
    (hc : ReceivedL S vf path i cs cs') : cs'.length = cs.length := by
  simpa [encodeList_length] using congrArg List.length hc.enc

/-- leaf kinds that `decode` rebuilds exactly as they were encoded: by their registered decoder, the test error by the
    payload fallback -/
def LeafKind.verbatim : LeafKind → Bool
  | .pkgFundamental .. | .opaqueErrno .. | .opaqueLeaf .. | .user .. => false
  | _ => true

theorem decode_encode_leaf_verbatim (id : Ident) (k : LeafKind) (path : List Nat)
    (hv : k.verbatim = true) (hs : leafStable k = true) (hk : S (typeKey Full (.leaf id k)) = true) :
    decode (Sub S) path (encode Full vf (.leaf id k)) = some (.leaf path k) := by
  -- kind by kind, by computing `encode` and the kind's decoder in `buildLeaf`, whose guards hold by `hk` and `hs`
  cases k <;> first | cases hv | skip
  all_goals simp [typeKey, leafStable] at hk hs
  all_goals simp only [encode, Full_knows, if_true, decode, decodeHid, decodeList]
  all_goals unfold buildLeaf
  all_goals simp [detOf, Full_arch, hk, hs, layerDetails, text, leafText]

/-- a leaf that no decoder rebuilds shows nothing that its wire node does not carry (`wireLbl`), and the stand-in
    built from that node is stable -/
theorem leaf_noDecoder (id : Ident) (k : LeafKind) (h : leafStable k = true) (hv : k.verbatim = false) :
    ∃ d hid, encode Full vf (.leaf id k) = .leaf (text (.leaf id k)) d hid [] ∧
      leafStable (.opaqueLeaf (text (.leaf id k)) d hid) = true ∧ label vf (.leaf id k) = wireLbl (text (.leaf id k)) d false := by
  cases k with
  | pkgFundamental m st =>
    simp only [leafStable, decide_eq_true_eq] at h
    exact ⟨_, _, rfl, by simp [leafStable, detOf],
      label_eq_wireLbl rfl (by simp [safeOf, layerDetails, detOf]) (by simp [layerStackStr, detOf, isStackKey, h])⟩
  | opaqueLeaf m d hid => exact ⟨_, _, rfl, h, label_opaqueLeaf ..⟩
  | user u m =>
    simp only [leafStable] at h
    have ⟨hc, hl⟩ := userOK_layer h vf (.leaf id (.user u m)) false .none rfl rfl rfl rfl
    exact ⟨_, _, rfl, by simp [leafStable, detOf, hc], hl⟩
  | opaqueErrno => cases h
  | _ => cases hv

/-- the opaque route of a layer sent as a leaf node: the receiver does not know the key, or no decoder rebuilds the
    kind and the layer showed no more than the stand-in does -/
theorem leaf_standin (e : Err) (path : List Nat) (msg : Str) (d : Det) (hid : List Enc)
    (hw : encode Full vf e = .leaf msg d hid [])
    (hor : S d.mark.fam = false ∨ (leafStable (.opaqueLeaf msg d hid) = true ∧ shape vf e = .node (wireLbl msg d false) []))
    (ht : msg = text e) :
    Received S vf path e (.leaf path (.opaqueLeaf msg d hid)) :=
  ⟨by rw [hw]; exact buildLeaf_opaque (hor.imp_right (·.1)), hw.symm, ht,
    fun hall =>
      have ⟨hs, hl⟩ := hor.resolve_left (by simp [hall])
      ⟨(congrArg (TTree.node · []) (label_opaqueLeaf ..)).trans hl.symm, hs⟩⟩

theorem leaf_received (id : Ident) (k : LeafKind) (path : List Nat)
    (h : leafStable k = true) (hf : S (typeKey Full (.leaf id k)) = true ∨ leafFaithful k = true) :
    ∃ e', Received S vf path (.leaf id k) e' := by
  by_cases hk : S (typeKey Full (.leaf id k)) = true
  · cases hv : k.verbatim
    · obtain ⟨d, hid, hw, hs, hl⟩ := leaf_noDecoder vf id k h hv
      exact ⟨_, leaf_standin S vf _ path _ d hid hw (.inr ⟨hs, congrArg (TTree.node · []) hl⟩) rfl⟩
    · exact ⟨_, decode_encode_leaf_verbatim S vf id _ path hv h hk,
        encode_leaf_congr vf _ rfl rfl (by simp [hk, Full_knows]), rfl,
        fun _ => ⟨congrArg (TTree.node · []) (label_leaf_congr vf _), h⟩⟩
  · obtain ⟨msg, d, hid, hw, _, hmark⟩ := encode_leaf_form Full vf id k
    exact ⟨_, leaf_standin S vf _ path msg d hid hw (.inl (by rw [hmark]; simpa [typeKey] using hk))
      (wire_leaf_text (hf.resolve_left hk) hw)⟩

/-- wrapper kinds whose registered decoder rebuilds the layer exactly as it was encoded -/
def WrapKind.verbatim : WrapKind → Bool
  | .withStack _ | .pkgWithStack _ | .fmtWrapError _ | .opaqueWrapper .. | .user .. | .withContext .. => false
  | _ => true

theorem decode_encode_wrap_verbatim (id : Ident) (k : WrapKind) (c c' : Err) (path : List Nat)
    (hv : k.verbatim = true) (hs : wrapStable k (text c) = true)
    (hk : S (typeKey Full (.wrap id k c)) = true)
    (hd : decode (Sub S) (0 :: path) (encode Full vf c) = some c') :
    decode (Sub S) path (encode Full vf (.wrap id k c)) = some (.wrap path k c') := by
  -- kind by kind, by computing `encode` and the kind's decoder in `buildWrap`, whose guards hold by `hk` and `hs`
  cases k <;> first | cases hv | skip
  all_goals simp [typeKey, wrapStable] at hk hs
  all_goals simp only [encode, Full_knows, if_true, decode_wrap, hd, Option.bind_some]
  all_goals unfold buildWrap
  all_goals simp [detOf, hk, hs, layerDetails, text, wrapText, extractPrefix_pfx, mtPrefix]

/-- a wrapper that no decoder rebuilds as it was shows nothing that its wire node does not carry (`wireLbl`), unless it
    carries context tags (`wrap_context`) -/
theorem wrap_noDecoder (id : Ident) (k : WrapKind) (c : Err) (h : wrapStable k (text c) = true) (hv : k.verbatim = false) :
    (∃ tags kinds red, k = .withContext tags kinds red) ∨
    ∃ msg d mt hid, encode Full vf (.wrap id k c) = .wrap msg d mt hid (encode Full vf c) ∧ classify d.mark.fam = .other ∧
      wrapFaithful k = true ∧ label vf (.wrap id k c) = wireLbl (text (.wrap id k c)) d false := by
  cases k with
  | withStack st | pkgWithStack st =>
    simp only [wrapStable, decide_eq_true_eq] at h
    exact .inr ⟨_, _, _, _, rfl, by simp [detOf], rfl,
      label_eq_wireLbl rfl (by simp [safeOf, layerDetails, detOf])
        (by simp [layerStackStr, detOf, layerDetails, isStackKey, h])⟩
  | fmtWrapError m =>
    exact .inr ⟨_, _, _, _, rfl, by simp [detOf], rfl,
      label_eq_wireLbl rfl rfl (by simp only [detOf, layerDetails, List.head?_nil, ite_self]; rfl)⟩
  | opaqueWrapper p d mt hid => exact .inr ⟨_, _, _, _, rfl, by simpa [wrapStable] using h, rfl, label_opaqueWrapper ..⟩
  | user u m =>
    simp only [wrapStable, Bool.and_eq_true] at h
    have ⟨hc, hl⟩ := userOK_layer h.1 vf (.wrap id (.user u m) c) false .none rfl rfl rfl rfl
    exact .inr ⟨_, _, _, _, rfl, hc, rfl, hl⟩
  | withContext tags kinds red => exact .inl ⟨_, _, _, rfl⟩
  | _ => cases hv

theorem wrap_standin (e c c' : Err) (path : List Nat) (msg : Str) (d : Det) (mt : Nat) (hid : List Enc)
    (hw : encode Full vf e = .wrap msg d mt hid (encode Full vf c))
    (hor : S d.mark.fam = false ∨ (classify d.mark.fam = .other ∧ shape vf e = .node (wireLbl (text e) d false) [shape vf c]))
    (ht : opaqueText msg mt (text c') = text e) (hc : Received S vf (0 :: path) c c') :
    Received S vf path e (.wrap path (.opaqueWrapper msg d mt hid) c') := by
  refine ⟨?_, ?_, ht, fun hall => ?_⟩
  · rw [hw, decode_wrap, hc.dec]
    exact buildWrap_opaque (hor.imp_right (·.1))
  · rw [hw]; exact congrArg _ hc.enc
  · obtain ⟨hcl, hl⟩ := hor.resolve_left (by simp [hall])
    exact ⟨by rw [shape, (hc.full hall).1, label_opaqueWrapper, ht, hl],
      by simp [stable, wrapStable, hcl, (hc.full hall).2]⟩

/-- context tags come back with their redacted rendering fixed and the kinds of the values forgotten -/
theorem wrap_context (id : Ident) (tags : List (Str × Str)) (kinds : List Nat) (red : Option (List Str))
    (c c' : Err) (path : List Nat)
    (h : wrapStable (.withContext tags kinds red) (text c) = true)
    (hk : S (typeKey Full (.wrap id (.withContext tags kinds red) c)) = true)
    (hc : Received S vf (0 :: path) c c') :
    ∃ e', Received S vf path (.wrap id (.withContext tags kinds red) c) e' := by
  simp [typeKey, wrapStable] at h hk
  obtain ⟨h1, h2⟩ := h
  have hld : layerDetails Full vf (.wrap id (.withContext tags kinds red) c) ≠ [] := by
    cases red with
    | none => simpa [layerDetails, redactTags_eq_nil] using h1.1
    | some r => simpa [layerDetails] using h2
  refine ⟨.wrap path (.withContext tags [] (some (layerDetails Full vf (.wrap id (.withContext tags kinds red) c)))) c', ?_, ?_, ?_, fun hall => ⟨?_, ?_⟩⟩
  · simp only [encode, typeKey, Full_knows, if_true, decode_wrap, hc.dec, Option.bind_some]
    unfold buildWrap
    simp [detOf, hk, h1, hld]
  · simp [encode, typeKey, Full_knows, detOf, hc.enc, hk, layerDetails]
  · simp only [text, wrapText, hc.text]
  · simp only [shape, (hc.full hall).1]
    unfold label annOf safeOf
    simp only [text, wrapText, hc.text, layerDetails]
    rfl
  · simp [stable, wrapStable, h1, hld, (hc.full hall).2]

theorem wrap_received (id : Ident) (k : WrapKind) (c c' : Err) (path : List Nat)
    (h : wrapStable k (text c) = true) (hf : S (typeKey Full (.wrap id k c)) = true ∨ wrapFaithful k = true)
    (hc : Received S vf (0 :: path) c c') :
    ∃ e', Received S vf path (.wrap id k c) e' := by
  by_cases hk : S (typeKey Full (.wrap id k c)) = true
  · cases hv : k.verbatim
    · obtain ⟨tags, kinds, red, rfl⟩ | ⟨msg, d, mt, hid, hw, hcl, hfk, hl⟩ := wrap_noDecoder vf id k c h hv
      · exact wrap_context S vf id tags kinds red c c' path h hk hc
      · exact ⟨_, wrap_standin S vf _ c c' path msg d mt hid hw (.inr ⟨hcl, by rw [shape, hl]⟩)
          (hc.text ▸ wire_wrap_text h hfk hw) hc⟩
    · exact ⟨_, decode_encode_wrap_verbatim S vf id _ c c' path hv h hk hc.dec,
        encode_wrap_congr vf _ rfl (by simp [hk, Full_knows]) hc.text hc.enc,
        by simp only [text, hc.text],
        fun hall => ⟨by rw [shape, shape, (hc.full hall).1, label_wrap_congr vf _ hc.text],
          by simp only [stable, hc.text, h, (hc.full hall).2, Bool.and_self]⟩⟩
  · obtain ⟨msg, d, mt, hid, hw, _, hmark⟩ := encode_wrap_form Full vf id k c
    exact ⟨_, wrap_standin S vf _ c c' path msg d mt hid hw (.inl (by rw [hmark]; simpa [typeKey] using hk))
      (hc.text ▸ wire_wrap_text h (hf.resolve_left hk) hw) hc⟩

/-- a barrier comes back with the safe details it was sent with; an unknowing process keeps the node, with the
    hidden error still encoded in it, and shows the barrier's message as sent -/
theorem barrier_received (id : Ident) (m : BarrierMsg) (hd hd' : Err) (path : List Nat)
    (hm : m.recv ≠ some [])
    (hf : S (typeKey Full (.barrier id m hd)) = true ∨ stripMarkers m.smsg = m.smsg)
    (hc : Received S vf (1 :: path) hd hd') :
    ∃ e', Received S vf path (.barrier id m hd) e' := by
  have hw : encode Full vf (.barrier id m hd) =
      .leaf m.smsg (detOf Full (.barrier id m hd) (layerDetails Full vf (.barrier id m hd)) .none) [encode Full vf hd] [] := rfl
  have hld : layerDetails Full vf (.barrier id m hd) ≠ [] := by
    cases hr : m.recv with
    | none => simp [layerDetails, hr]
    | some r => simpa [layerDetails, hr] using fun h0 => hm (by rw [hr, h0])
  cases hk : S (typeKey Full (.barrier id m hd))
  · exact ⟨_, leaf_standin S vf _ path _ _ _ hw (.inl hk) (hf.resolve_left (by simp [hk])).symm⟩
  · simp only [typeKey, tm_barrier] at hk
    refine ⟨.barrier path ⟨m.smsg, some (layerDetails Full vf (.barrier id m hd))⟩ hd', ?_, ?_, rfl, fun hall => ⟨?_, ?_⟩⟩
    · rw [hw, decode, decodeHid, hc.dec, decodeList]
      simp [buildLeaf.eq_def, detOf, hk, hld]
    · rw [hw]
      simp [encode, typeKey, detOf, hc.enc, hk, layerDetails]
    · exact congrArg (TTree.node · []) (label_barrier_congr vf rfl)
    · simp [stable, hld, (hc.full hall).2]

theorem second_received (id : Ident) (c s c' s' : Err) (path : List Nat)
    (hc : Received S vf (0 :: path) c c') (hs : Received S vf (1 :: path) s s') :
    ∃ e', Received S vf path (.second id c s) e' := by
  have hw : encode Full vf (.second id c s) =
      .wrap [] (detOf Full (.second id c s) [] .none) mtPrefix [encode Full vf s] (encode Full vf c) := rfl
  cases hk : S (typeKey Full (.second id c s))
  · exact ⟨_, wrap_standin S vf _ c c' path _ _ _ _ hw (.inl hk) (by simp only [opaqueText_prefix, text, hc.text, if_true]) hc⟩
  · simp only [typeKey, tm_secondary] at hk
    refine ⟨.second path c' s', ?_, ?_, ?_, fun hall => ⟨?_, ?_⟩⟩
    · rw [hw, decode_wrap, hc.dec, decodeHid, hs.dec]
      simp [buildWrap.eq_def, detOf, hk]
    · rw [hw]
      simp [encode, typeKey, detOf, hc.enc, hs.enc, hk]
    · simp only [text, hc.text]
    · rw [shape, shape, (hc.full hall).1, label_second_congr vf hc.text]
    · simp [stable, (hc.full hall).2, (hs.full hall).2]

/-- a multi-cause layer shows nothing that its wire node does not carry (`wireLbl`), unless it is the library's join -/
theorem multi_noDecoder (id : Ident) (k : MultiKind) (cs : List Err) (h : multiStable k cs.length = true) :
    k = .join ∨
    ∃ d hid, encode Full vf (.multi id k cs) = .leaf (text (.multi id k cs)) d hid (encodeList Full vf cs) ∧
      leafStable (.opaqueLeaf (text (.multi id k cs)) d hid) = true ∧
      label vf (.multi id k cs) = wireLbl (text (.multi id k cs)) d true := by
  simp only [multiStable, Bool.and_eq_true] at h
  cases k with
  | stdJoin | fmtWrapErrors m =>
    exact .inr ⟨_, _, rfl, by simp [leafStable, detOf],
      label_eq_wireLbl rfl rfl (by simp only [detOf, layerDetails, List.head?_nil, ite_self]; rfl)⟩
  | opaqueLeafCauses m d hid => exact .inr ⟨_, _, rfl, h.2, label_opaqueLeafCauses ..⟩
  | user u m =>
    have ⟨hc, hl⟩ := userOK_layer h.2 vf (.multi id (.user u m) cs) true .none rfl rfl rfl rfl
    exact .inr ⟨_, _, rfl, by simp [leafStable, detOf, hc], hl⟩
  | join => exact .inl rfl

theorem multi_standin (id : Ident) (k : MultiKind) (cs cs' : List Err) (path : List Nat) (d : Det) (hid : List Enc)
    (h : multiStable k cs.length = true)
    (hw : encode Full vf (.multi id k cs) = .leaf (text (.multi id k cs)) d hid (encodeList Full vf cs))
    (hor : S d.mark.fam = false ∨ (leafStable (.opaqueLeaf (text (.multi id k cs)) d hid) = true ∧
      label vf (.multi id k cs) = wireLbl (text (.multi id k cs)) d true))
    (hc : ReceivedL S vf path 2 cs cs') :
    Received S vf path (.multi id k cs) (.multi path (.opaqueLeafCauses (text (.multi id k cs)) d hid) cs') := by
  have hn : cs'.length ≠ 0 := by
    simp only [multiStable, Bool.and_eq_true, decide_eq_true_eq] at h
    rw [hc.length]; exact h.1
  refine ⟨?_, ?_, rfl, fun hall => ?_⟩
  · rw [hw, decode, hc.dec, buildLeaf_opaque (hor.imp_right (·.1))]
    cases cs' with
    | nil => exact absurd rfl hn
    | cons => rfl
  · rw [hw]; exact congrArg _ hc.enc
  · obtain ⟨hs, hl⟩ := hor.resolve_left (by simp [hall])
    exact ⟨by rw [shape, shape, (hc.full hall).1, label_opaqueLeafCauses, hl],
      -- `multiStable` asks of the stand-in what `leafStable` asks of an opaque leaf
      by simp only [stable, multiStable, hn, (hc.full hall).2, ne_eq, not_false_eq_true, decide_true, Bool.true_and, Bool.and_true]; exact hs⟩

theorem multi_received (id : Ident) (k : MultiKind) (cs cs' : List Err) (path : List Nat)
    (h : multiStable k cs.length = true) (hc : ReceivedL S vf path 2 cs cs') :
    ∃ e', Received S vf path (.multi id k cs) e' := by
  by_cases hk : S (typeKey Full (.multi id k cs)) = true
  · obtain rfl | ⟨d, hid, hw, hs, hl⟩ := multi_noDecoder vf id k cs h
    · refine ⟨.multi path .join cs', ?_, encode_multi_congr vf _ rfl hc.text hc.enc, by simp only [text, hc.text], fun hall => ⟨?_, ?_⟩⟩
      · simp only [typeKey, tm_join] at hk
        have hn : cs' ≠ [] := fun h0 => by simp [multiStable, ← hc.length, h0] at h
        rw [show encode Full vf (.multi id .join cs) = .leaf _ (detOf Full (.multi id .join cs) [] .none) [] _ from rfl, decode, hc.dec]
        cases cs' with
        | nil => exact absurd rfl hn
        | cons => unfold buildLeaf; simp [detOf, hk]
      · rw [shape, shape, (hc.full hall).1, label_multi_congr vf _ hc.text]
      · simp only [stable, hc.length, h, (hc.full hall).2, Bool.and_self]
    · exact ⟨_, multi_standin S vf id k cs cs' path d hid h hw (.inr ⟨hs, hl⟩) hc⟩
  · obtain ⟨d, hid, hw, _, hmark⟩ := encode_multi_form Full vf id k cs
    exact ⟨_, multi_standin S vf id k cs cs' path d hid h hw (.inl (by rw [hmark]; simpa [typeKey] using hk)) hc⟩

end

mutual
/-- every layer (hidden ones included) puts on the wire a message from which a process that
    does not know its type shows the origin's Error() text.  Excluded: barriers whose message
    has redaction markers (finding D7), gRPC status leaves (finding D13), and prefix wrappers
    with an empty prefix that still print the separator. -/
def faithful : Err → Bool
  | .leaf _ k => leafFaithful k
  | .barrier _ m h => decide (stripMarkers m.smsg = m.smsg) && faithful h
  | .wrap _ k c => wrapFaithful k && faithful c
  | .second _ c s => faithful c && faithful s
  | .multi _ _ cs => faithfulL cs
def faithfulL : List Err → Bool
  | [] => true
  | e :: r => faithful e && faithfulL r
end


mutual
/-- One hop from a knowing process to a process that knows the type keys in `S`: every stable error is
    received (`Received`), provided each layer whose type the receiver does not know puts its text on
    the wire (`faithful`; nothing to ask when the receiver knows every type). -/
theorem received (S : Str → Bool) (vf : Err → Str) : (e : Err) → (path : List Nat) → stable e = true →
    ((∀ k, S k = true) ∨ faithful e = true) → ∃ e', Received S vf path e e'
  | .leaf id k, path, h, hf =>
    leaf_received S vf id k path (by simpa [stable] using h) (hf.imp (· _) (by simp [faithful]))
  | .barrier id m hd, path, h, hf => by
    simp [stable, faithful] at h hf
    obtain ⟨hd', hc⟩ := received S vf hd (1 :: path) h.2 (hf.imp_right (·.2))
    exact barrier_received S vf id m hd hd' path h.1 (hf.imp (· _) (·.1)) hc
  | .wrap id k c, path, h, hf => by
    simp [stable, faithful] at h hf
    obtain ⟨c', hc⟩ := received S vf c (0 :: path) h.2 (hf.imp_right (·.2))
    exact wrap_received S vf id k c c' path h.1 (hf.imp (· _) (·.1)) hc
  | .second id c s, path, h, hf => by
    simp [stable, faithful] at h hf
    obtain ⟨c', hc⟩ := received S vf c (0 :: path) h.1 (hf.imp_right (·.1))
    obtain ⟨s', hs⟩ := received S vf s (1 :: path) h.2 (hf.imp_right (·.2))
    exact second_received S vf id c s c' s' path hc hs
  | .multi id k cs, path, h, hf => by
    simp [stable, faithful] at h hf
    obtain ⟨cs', hc⟩ := receivedL S vf cs path 2 h.2 hf
    exact multi_received S vf id k cs cs' path h.1 hc
theorem receivedL (S : Str → Bool) (vf : Err → Str) : (cs : List Err) → (path : List Nat) → (i : Nat) → stableL cs = true →
    ((∀ k, S k = true) ∨ faithfulL cs = true) → ∃ cs', ReceivedL S vf path i cs cs'
  | [], _, _, _, _ => ⟨[], rfl, rfl, rfl, fun _ => ⟨rfl, rfl⟩⟩
  | e :: r, path, i, h, hf => by
    simp [stableL, faithfulL] at h hf
    obtain ⟨e', he⟩ := received S vf e (i :: path) h.1 (hf.imp_right (·.1))
    obtain ⟨r', hr⟩ := receivedL S vf r path (i + 1) h.2 (hf.imp_right (·.2))
    exact ⟨e' :: r', by simp [encodeList, decodeList, he.dec, hr.dec], by simp [encodeList, he.enc, hr.enc],
      by simp [textList, he.text, hr.text],
      fun hall => ⟨by simp [shapeL, (he.full hall).1, (hr.full hall).1], by simp [stableL, (he.full hall).2, (hr.full hall).2]⟩⟩
end

/-- One hop between knowing processes: decoding succeeds, the visible tree and the
    text at every node are unchanged, the result is stable again, and it re-encodes to the very
    message it was decoded from. -/
theorem hop_ok_enc (vf : Err → Str) : (e : Err) → (path : List Nat) → stable e = true →
    ∃ e', decode Full path (encode Full vf e) = some e' ∧ shape vf e' = shape vf e ∧ stable e' = true ∧
      encode Full vf e' = encode Full vf e := fun e path h =>
  have ⟨e', hr⟩ := received (fun _ => true) vf e path h (.inl fun _ => rfl)
  ⟨e', hr.dec, (hr.full fun _ => rfl).1, (hr.full fun _ => rfl).2, hr.enc⟩

theorem hop_ok_list_enc (vf : Err → Str) : (cs : List Err) → (path : List Nat) → (i : Nat) → stableL cs = true →
    ∃ cs', decodeList Full path i (encodeList Full vf cs) = some cs' ∧ shapeL vf cs' = shapeL vf cs ∧ stableL cs' = true ∧
      encodeList Full vf cs' = encodeList Full vf cs := fun cs path i h =>
  have ⟨cs', hr⟩ := receivedL (fun _ => true) vf cs path i h (.inl fun _ => rfl)
  ⟨cs', hr.dec, (hr.full fun _ => rfl).1, (hr.full fun _ => rfl).2, hr.enc⟩

theorem hop_ok (vf : Err → Str) (e : Err) (path : List Nat) (h : stable e = true) :
    ∃ e', decode Full path (encode Full vf e) = some e' ∧ shape vf e' = shape vf e ∧ stable e' = true := by
  obtain ⟨e', h1, h2, h3, _⟩ := hop_ok_enc vf e path h
  exact ⟨e', h1, h2, h3⟩

theorem hopQ_ok (S : Str → Bool) (vf : Err → Str) : (e : Err) → (path : List Nat) → stable e = true → faithful e = true →
    ∃ e', decode (Sub S) path (encode Full vf e) = some e' ∧ encode (Sub S) vf e' = encode Full vf e ∧ text e' = text e :=
  fun e path h hf =>
  have ⟨e', hr⟩ := received S vf e path h (.inr hf)
  ⟨e', hr.dec, hr.enc, hr.text⟩

theorem hopQ_ok_list (S : Str → Bool) (vf : Err → Str) : (cs : List Err) → (path : List Nat) → (i : Nat) → stableL cs = true → faithfulL cs = true →
    ∃ cs', decodeList (Sub S) path i (encodeList Full vf cs) = some cs' ∧ encodeList (Sub S) vf cs' = encodeList Full vf cs ∧
      textList cs' = textList cs := fun cs path i h hf =>
  have ⟨cs', hr⟩ := receivedL S vf cs path i h (.inr hf)
  ⟨cs', hr.dec, hr.enc, hr.text⟩


/-- the visible cause tree with, at every layer, the original type name and the type mark -/
inductive NTree
  | node (otype : Str) (mark : TMark) (multi : Bool) (kids : List NTree)
  deriving Repr, Inhabited

section
variable (P : Proc)
mutual
def names : Err → NTree
  | .leaf id k => .node (origTypeName (.leaf id k)) (typeMark P (.leaf id k)) false []
  | .barrier id m h => .node (origTypeName (.barrier id m h)) (typeMark P (.barrier id m h)) false []
  | .wrap id k c => .node (origTypeName (.wrap id k c)) (typeMark P (.wrap id k c)) false [names c]
  | .second id c s => .node (origTypeName (.second id c s)) (typeMark P (.second id c s)) false [names c]
  | .multi id k cs => .node (origTypeName (.multi id k cs)) (typeMark P (.multi id k cs)) (!cs.isEmpty) (namesL cs)
def namesL : List Err → List NTree
  | [] => []
  | e :: r => names e :: namesL r
end
end

mutual
def wireNames : Enc → NTree
  | .leaf _ d _ causes => .node d.origType d.mark (!causes.isEmpty) (wireNamesL causes)
  | .wrap _ d _ _ cause => .node d.origType d.mark false [wireNames cause]
def wireNamesL : List Enc → List NTree
  | [] => []
  | e :: r => wireNames e :: wireNamesL r
end

mutual
/-- what is on the wire names every visible layer: its original type name and its mark -/
theorem wireNames_encode (P : Proc) (vf : Err → Str) : (e : Err) → wireNames (encode P vf e) = names P e
  | .leaf id k => by
    obtain ⟨_, d, _, hform, ho, hm⟩ := encode_leaf_form P vf id k
    rw [hform, wireNames, names, ho, hm]; rfl
  | .barrier id m h => by
    simp only [encode]; split <;> rfl
  | .wrap id k c => by
    obtain ⟨_, d, _, _, hform, ho, hm⟩ := encode_wrap_form P vf id k c
    rw [hform, wireNames, names, ho, hm, wireNames_encode P vf c]
  | .second id c s => by
    simp only [encode]; split <;> simp only [wireNames, names, wireNames_encode P vf c] <;> rfl
  | .multi id k cs => by
    obtain ⟨d, _, hform, ho, hm⟩ := encode_multi_form P vf id k cs
    rw [hform, wireNames, names, ho, hm, wireNamesL_encode P vf cs]
    cases cs <;> simp [encodeList]
theorem wireNamesL_encode (P : Proc) (vf : Err → Str) : (cs : List Err) → wireNamesL (encodeList P vf cs) = namesL P cs
  | [] => rfl
  | e :: r => by rw [encodeList, wireNamesL, namesL, wireNames_encode P vf e, wireNamesL_encode P vf r]
end

mutual
theorem names_Sub (S : Str → Bool) : (e : Err) → names (Sub S) e = names Full e
  | .leaf _ _ => by simp [names]
  | .barrier _ _ _ => by simp [names]
  | .wrap _ _ c => by simp [names, names_Sub S c]
  | .second _ c _ => by simp [names, names_Sub S c]
  | .multi _ _ cs => by simp [names, namesL_Sub S cs]
theorem namesL_Sub (S : Str → Bool) : (cs : List Err) → namesL (Sub S) cs = namesL Full cs
  | [] => by simp [namesL]
  | e :: r => by simp [namesL, names_Sub S e, namesL_Sub S r]
end

theorem hopQ_names (S : Str → Bool) (vf : Err → Str) (e : Err) (path : List Nat) (h : stable e = true) (hf : faithful e = true) :
    ∃ e', decode (Sub S) path (encode Full vf e) = some e' ∧ names Full e' = names Full e := by
  obtain ⟨e', h1, h2, _⟩ := hopQ_ok S vf e path h hf
  exact ⟨e', h1, by rw [← names_Sub S e', ← wireNames_encode (Sub S) vf e', h2, wireNames_encode]⟩

end ErrModel
