import ErrModel.Transport
/-
  `extractPrefix` : what an unregistered wrapper's message is split into, and
  that the opaque wrapper's Error() reassembles it — for ALL byte strings.
-/
namespace ErrModel

theorem extractPrefix_self (s : Str) : extractPrefix s s = ([], mtPrefix) := by
  simp [extractPrefix, show stripSuffix? s s = some [] from stripSuffix?_append [] s]

theorem extractPrefix_pfx (m ct : Str) : extractPrefix (pfx m ct) ct = (m, mtPrefix) := by
  unfold extractPrefix
  rw [show pfx m ct = (m ++ colonSp) ++ ct by simp [pfx], stripSuffix?_append]
  have hne : m ++ colonSp ≠ [] := by simp [colonSp]
  simp only [hne, if_false, stripSuffix?_append]

/-- Error() of an opaque wrapper with the given prefix and message type -/
def opaqueText (p : Str) (mt : Nat) (ct : Str) : Str :=
  if mt = mtFull then p else if p = [] then ct else pfx p ct

theorem opaqueText_full (p ct : Str) : opaqueText p mtFull ct = p := rfl
theorem opaqueText_prefix (p ct : Str) : opaqueText p mtPrefix ct = if p = [] then ct else pfx p ct := rfl

theorem wrapText_opaque (p : Str) (d : Det) (mt : Nat) (hid : List Enc) (ct : Str) :
    wrapText (.opaqueWrapper p d mt hid) ct = opaqueText p mt ct := rfl

/-- The crux of C01/C04 for unregistered wrappers: whatever the wrapper's text `m`
    and the cause's text `c` are, the opaque wrapper built from `extractPrefix`
    prints `m` again — except when `m` is exactly `": " ++ c` (a wrapper whose own
    message is empty but which still prints the separator). -/
theorem extract_reassemble (m c : Str) (h : m ≠ colonSp ++ c) :
    opaqueText (extractPrefix m c).1 (extractPrefix m c).2 c = m := by
  unfold extractPrefix
  split
  next pre h1 =>
    obtain rfl := stripSuffix?_eq_some.mp h1
    split
    next hp => simp [hp, opaqueText, mtPrefix, mtFull]
    next hp =>
      split
      next p h2 =>
        obtain rfl := stripSuffix?_eq_some.mp h2
        have : p ≠ [] := by rintro rfl; exact h rfl
        simp [opaqueText, mtPrefix, mtFull, this, pfx]
      next => rfl
  next => rfl

end ErrModel
