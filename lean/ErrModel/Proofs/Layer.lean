import ErrModel.Proofs.Keys
import ErrModel.Proofs.Prefix
import ErrModel.Shape
/-
  Lemmas about the model's definitions, one layer at a time: what the observers of a layer (`typeMark`,
  `layerDetails`, `label`) and its encoding depend on, what `decode` makes of a wire node whose type it
  does not know, and the form of the node `encode` sends.  The hop itself is in Proofs/Subset.lean.
-/
namespace ErrModel

theorem Full_knows (k : Str) : Full.knows k = true := rfl
theorem Full_arch : Full.arch = archHere := rfl

theorem typeMark_congr_reg {P Q : Proc} (h : P.reg = Q.reg) (e : Err) : typeMark P e = typeMark Q e := by
  unfold typeMark Proc.family; rw [h]

theorem layerDetails_leaf_congr (P Q : Proc) (vf vf' : Err → Str) (k : LeafKind) {id id' : Ident} :
    layerDetails P vf (.leaf id' k) = layerDetails Q vf' (.leaf id k) := by
  unfold layerDetails; rfl

theorem layerDetails_wrap_congr (P Q : Proc) (vf vf' : Err → Str) (k : WrapKind) {id id' : Ident} {c c' : Err} :
    layerDetails P vf (.wrap id' k c') = layerDetails Q vf' (.wrap id k c) := by
  unfold layerDetails; rfl

theorem layerDetails_multi_congr (P Q : Proc) (vf vf' : Err → Str) (k : MultiKind) {id id' : Ident} {cs cs' : List Err} :
    layerDetails P vf (.multi id' k cs') = layerDetails Q vf' (.multi id k cs) := by
  unfold layerDetails; rfl

-- one recursion over a conjunction: a mutual pair calling itself on the same argument costs Lean thirty times as much
theorem details_congr_reg {P Q : Proc} (h : P.reg = Q.reg) (vf : Err → Str) :
    (e : Err) → layerDetails P vf e = layerDetails Q vf e ∧ chainFill P vf e = chainFill Q vf e
  | .leaf id k => by simp only [chainFill, layerDetails_leaf_congr P Q vf vf k (id := id), typeMark_congr_reg h, and_self]
  | .multi id k cs => by
    simp only [chainFill, layerDetails_multi_congr P Q vf vf k (id := id) (cs := cs), typeMark_congr_reg h, and_self]
  | .wrap id k c => by
    simp only [chainFill, layerDetails_wrap_congr P Q vf vf k (id := id) (c := c), typeMark_congr_reg h, details_congr_reg h vf c,
      and_self]
  | .barrier id m hd => by simp only [layerDetails, chainFill, typeMark_congr_reg h, details_congr_reg h vf hd, and_self]
  | .second id c s => by
    simp only [layerDetails, chainFill, typeMark_congr_reg h, details_congr_reg h vf c, details_congr_reg h vf s, and_self]

theorem typeMark_leaf_congr (P : Proc) (k : LeafKind) {id id' : Ident} : typeMark P (.leaf id' k) = typeMark P (.leaf id k) := by
  cases k <;> rfl
theorem typeMark_wrap_congr (P : Proc) (k : WrapKind) {id id' : Ident} {c c' : Err} :
    typeMark P (.wrap id' k c') = typeMark P (.wrap id k c) := by
  cases k <;> rfl
theorem typeMark_multi_congr (P : Proc) (k : MultiKind) {id id' : Ident} {cs cs' : List Err} :
    typeMark P (.multi id' k cs') = typeMark P (.multi id k cs) := by
  cases k <;> rfl

theorem origTypeName_leaf_congr (k : LeafKind) {id id' : Ident} : origTypeName (.leaf id' k) = origTypeName (.leaf id k) := by
  cases k <;> rfl
theorem origTypeName_wrap_congr (k : WrapKind) {id id' : Ident} {c c' : Err} :
    origTypeName (.wrap id' k c') = origTypeName (.wrap id k c) := by
  cases k <;> rfl
theorem origTypeName_multi_congr (k : MultiKind) {id id' : Ident} {cs cs' : List Err} :
    origTypeName (.multi id' k cs') = origTypeName (.multi id k cs) := by
  cases k <;> rfl

theorem label_leaf_congr (vf : Err → Str) (k : LeafKind) {id id' : Ident} :
    label vf (.leaf id' k) = label vf (.leaf id k) := by
  have h1 : safeOf vf (.leaf id' k) = safeOf vf (.leaf id k) := layerDetails_leaf_congr ..
  unfold label annOf
  rw [h1]
  cases k <;> rfl

theorem label_wrap_congr (vf : Err → Str) (k : WrapKind) {id id' : Ident} {c c' : Err} (h : text c' = text c) :
    label vf (.wrap id' k c') = label vf (.wrap id k c) := by
  have h1 : safeOf vf (.wrap id' k c') = safeOf vf (.wrap id k c) := layerDetails_wrap_congr ..
  have h2 : text (.wrap id' k c') = text (.wrap id k c) := by simp only [text, h]
  unfold label annOf
  rw [h1, h2]
  cases k <;> rfl

theorem label_multi_congr (vf : Err → Str) (k : MultiKind) {id id' : Ident} {cs cs' : List Err} (h : textList cs' = textList cs) :
    label vf (.multi id' k cs') = label vf (.multi id k cs) := by
  have h1 : safeOf vf (.multi id' k cs') = safeOf vf (.multi id k cs) := layerDetails_multi_congr ..
  have h2 : text (.multi id' k cs') = text (.multi id k cs) := by simp only [text, h]
  unfold label annOf
  rw [h1, h2]
  cases k <;> rfl

theorem label_barrier_congr (vf : Err → Str) {id id' : Ident} {m m' : BarrierMsg} {h h' : Err} (hm : m'.smsg = m.smsg) :
    label vf (.barrier id' m' h') = label vf (.barrier id m h) := by
  unfold label
  rw [show text (.barrier id' m' h') = text (.barrier id m h) by simp only [text, hm]]
  rfl

theorem label_second_congr (vf : Err → Str) {id id' : Ident} {c c' s s' : Err} (h : text c' = text c) :
    label vf (.second id' c' s') = label vf (.second id c s) := by
  unfold label
  rw [show text (.second id' c' s') = text (.second id c s) by simp only [text, h]]
  rfl

/-- the label of a layer that carries no annotation, no stored mark and no `Is` signature -/
def plainLbl (t : Str) (m : TMark) (o : Str) (multi : Bool) (safe : List Str) (stack : Option Str) : Lbl :=
  ⟨t, m, o, none, none, multi, none, ⟨none, none, none, [], none, none, none, none, false, false, false, false, safe, stack⟩⟩

/-- what an opaque stand-in shows besides its text: the type name, mark and safe details that came in its wire
    node; the first safe detail counts as a printed stack under the three keys of withstack/reportable.go -/
def wireLbl (t : Str) (d : Det) (multi : Bool) : Lbl :=
  plainLbl t d.mark d.origType multi d.rep (if isStackKey d.mark.fam then d.rep.head? else none)

theorem label_opaqueLeaf (vf : Err → Str) (id : Ident) (msg : Str) (d : Det) (hid : List Enc) :
    label vf (.leaf id (.opaqueLeaf msg d hid)) = wireLbl msg d false := by
  unfold label annOf safeOf layerDetails; rfl

theorem label_opaqueWrapper (vf : Err → Str) (id : Ident) (p : Str) (d : Det) (mt : Nat) (hid : List Enc) (c : Err) :
    label vf (.wrap id (.opaqueWrapper p d mt hid) c) = wireLbl (opaqueText p mt (text c)) d false := by
  unfold label annOf safeOf layerDetails; rfl

theorem label_opaqueLeafCauses (vf : Err → Str) (id : Ident) (msg : Str) (d : Det) (hid : List Enc) (cs : List Err) :
    label vf (.multi id (.opaqueLeafCauses msg d hid) cs) = wireLbl msg d true := by
  unfold label annOf safeOf layerDetails; rfl

/-- `hp` holds by `rfl` for a kind without annotation, stored mark and `Is` signature -/
theorem label_eq_wireLbl {vf : Err → Str} {e : Err} {d : Det} {multi : Bool}
    (hp : label vf e = plainLbl (text e) d.mark d.origType multi (safeOf vf e) (layerStackStr Full e))
    (hr : safeOf vf e = d.rep) (hs : layerStackStr Full e = if isStackKey d.mark.fam then d.rep.head? else none) :
    label vf e = wireLbl (text e) d multi := by
  rw [hp, hr, hs]; rfl

/-- a layer of a foreign type (`userOK`; the other hypotheses hold by `rfl`): no decoder is registered under its key,
    and it shows what its wire node carries -/
theorem userOK_layer {u : UserTy} (h : userOK u = true) (vf : Err → Str) (e : Err) (multi : Bool) (pay : Pay)
    (ho : e.opaqueDet = none) (ht : e.ty.full = u.name)
    (hp : label vf e = plainLbl (text e) (typeMark Full e) (origTypeName e) multi (safeOf vf e) (layerStackStr Full e))
    (hs : layerStackStr Full e = none) :
    classify (typeMark Full e).fam = .other ∧ label vf e = wireLbl (text e) (detOf Full e (safeOf vf e) pay) multi := by
  simp only [userOK, Bool.and_eq_true, Bool.not_eq_true', decide_eq_true_eq] at h
  have hm : (typeMark Full e).fam = u.name := congrArg TMark.fam (typeMark_of_family ho ht h.1.2)
  exact ⟨hm ▸ h.1.1, label_eq_wireLbl hp rfl (by simp [hs, detOf, hm, h.2])⟩

theorem encode_leaf_congr {P Q : Proc} (vf : Err → Str) (k : LeafKind) {id id' : Ident} (hr : P.reg = Q.reg) (ha : P.arch = Q.arch)
    (hk : P.knows (typeKey Q (.leaf id k)) = Q.knows (typeKey Q (.leaf id k))) :
    encode P vf (.leaf id' k) = encode Q vf (.leaf id k) := by
  have e1 : typeMark P (.leaf id' k) = typeMark Q (.leaf id k) := (typeMark_leaf_congr P k).trans (typeMark_congr_reg hr _)
  have e1' : typeKey P (.leaf id' k) = typeKey Q (.leaf id k) := congrArg TMark.fam e1
  have e2 : layerDetails P vf (.leaf id' k) = layerDetails Q vf (.leaf id k) := layerDetails_leaf_congr ..
  simp only [encode, detOf, text, e1, e1', e2, origTypeName_leaf_congr k (id := id), hk, ha]

theorem encode_wrap_congr {P Q : Proc} (vf : Err → Str) (k : WrapKind) {id id' : Ident} {c c' : Err} (hr : P.reg = Q.reg)
    (hk : P.knows (typeKey Q (.wrap id k c)) = Q.knows (typeKey Q (.wrap id k c)))
    (ht : text c' = text c) (hen : encode P vf c' = encode Q vf c) :
    encode P vf (.wrap id' k c') = encode Q vf (.wrap id k c) := by
  have e1 : typeMark P (.wrap id' k c') = typeMark Q (.wrap id k c) :=
    (typeMark_wrap_congr P k).trans (typeMark_congr_reg hr _)
  have e1' : typeKey P (.wrap id' k c') = typeKey Q (.wrap id k c) := congrArg TMark.fam e1
  have e2 : layerDetails P vf (.wrap id' k c') = layerDetails Q vf (.wrap id k c) := layerDetails_wrap_congr ..
  simp only [encode, detOf, text, e1, e1', e2, origTypeName_wrap_congr k (id := id) (c := c), ht, hen, hk]

theorem encode_multi_congr {P Q : Proc} (vf : Err → Str) (k : MultiKind) {id id' : Ident} {cs cs' : List Err} (hr : P.reg = Q.reg)
    (ht : textList cs' = textList cs) (hen : encodeList P vf cs' = encodeList Q vf cs) :
    encode P vf (.multi id' k cs') = encode Q vf (.multi id k cs) := by
  have e1 : typeMark P (.multi id' k cs') = typeMark Q (.multi id k cs) :=
    (typeMark_multi_congr P k).trans (typeMark_congr_reg hr _)
  have e2 : layerDetails P vf (.multi id' k cs') = layerDetails Q vf (.multi id k cs) := layerDetails_multi_congr ..
  simp only [encode, detOf, text, e1, e2, origTypeName_multi_congr k (id := id) (cs := cs), ht, hen]

theorem decode_wrap (P : Proc) (path : List Nat) (msg : Str) (d : Det) (mt : Nat) (hid : List Enc) (w : Enc) :
    decode P path (.wrap msg d mt hid w) =
      (decode P (0 :: path) w).bind (buildWrap P path msg d mt hid (decodeHid P path hid)) := by
  rw [decode]; cases decode P (0 :: path) w <;> rfl

theorem buildWrap_opaque {P : Proc} {path : List Nat} {msg : Str} {d : Det} {mt : Nat} {hid : List Enc} {hd : Option Err} {c : Err}
    (h : P.knows d.mark.fam = false ∨ classify d.mark.fam = .other) :
    buildWrap P path msg d mt hid hd c = some (.wrap path (.opaqueWrapper msg d mt hid) c) := by
  unfold buildWrap
  rcases h with h | h
  · simp [h]
  · cases P.knows d.mark.fam <;> simp [h]

/-- a leaf or multi-cause node is kept as a stand-in unless its payload is itself an error (the test error): that is
    what `leafStable` of the stand-in says -/
theorem buildLeaf_opaque {P : Proc} {path : List Nat} {msg : Str} {d : Det} {hid : List Enc} {hd : Option Err} {cs : List Err}
    (h : P.knows d.mark.fam = false ∨ leafStable (.opaqueLeaf msg d hid) = true) :
    buildLeaf P path msg d hid hd (some cs) =
      some (match cs with | [] => .leaf path (.opaqueLeaf msg d hid) | l => .multi path (.opaqueLeafCauses msg d hid) l) := by
  unfold buildLeaf
  dsimp only
  rcases h with h | h
  · rw [h]; cases cs <;> rfl
  · simp [leafStable] at h
    rw [h.1]
    -- no decoder: the payload fallback, which is the stand-in unless nothing is hidden and the payload is the test error (`h.2`)
    cases cs <;> simp only [ite_eq_left_iff] <;> intro _ <;> split <;> simp_all

theorem encode_leaf_form (P : Proc) (vf : Err → Str) (id : Ident) (k : LeafKind) :
    ∃ msg d hid, encode P vf (.leaf id k) = .leaf msg d hid [] ∧
      d.origType = origTypeName (.leaf id k) ∧ d.mark = typeMark P (.leaf id k) := by
  simp only [encode]
  generalize P.knows (typeKey P (.leaf id k)) = known
  cases known <;> split <;> exact ⟨_, _, _, rfl, rfl, rfl⟩

theorem encode_wrap_form (P : Proc) (vf : Err → Str) (id : Ident) (k : WrapKind) (c : Err) :
    ∃ msg d mt hid, encode P vf (.wrap id k c) = .wrap msg d mt hid (encode P vf c) ∧
      d.origType = origTypeName (.wrap id k c) ∧ d.mark = typeMark P (.wrap id k c) := by
  simp only [encode]
  generalize P.knows (typeKey P (.wrap id k c)) = known
  cases known <;> split <;> exact ⟨_, _, _, _, rfl, rfl, rfl⟩

theorem encode_multi_form (P : Proc) (vf : Err → Str) (id : Ident) (k : MultiKind) (cs : List Err) :
    ∃ d hid, encode P vf (.multi id k cs) = .leaf (text (.multi id k cs)) d hid (encodeList P vf cs) ∧
      d.origType = origTypeName (.multi id k cs) ∧ d.mark = typeMark P (.multi id k cs) := by
  cases k <;> exact ⟨_, _, rfl, rfl, rfl⟩

theorem encodeList_length (P : Proc) (vf : Err → Str) : ∀ l : List Err, (encodeList P vf l).length = l.length
  | [] => rfl
  | _ :: r => by simp [encodeList, encodeList_length P vf r]

end ErrModel
