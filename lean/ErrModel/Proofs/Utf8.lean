import ErrModel.Proofs.LexUnlex
/-
  Valid UTF-8 without marker runes ("clean" text): the strings the formatting properties call
  regular.  A clean string is a concatenation of complete, valid, non-marker runes.
  Then the token strings that end on a rune boundary at their end and before every marker
  (`EndB`, `GoodT`): escaping clean text into one of them never adds a `?` for invalid UTF-8,
  and gives such a string again.
-/
namespace ErrModel

/-- a complete, valid UTF-8 encoding of one rune -/
def IsRune (r : Str) : Prop := r ≠ [] ∧ decodeRune r = (r.length, true)

theorem isContB_of_inR (b lo hi : UInt8) (hlo : 0x80 ≤ lo) (hhi : hi ≤ 0xBF) (h : inR b lo hi = true) : isContB b = true := by
  simp [inR, isContB, UInt8.le_iff_toNat_le] at *; omega

theorem not_lt_of_cont {c : UInt8} (h : isContB c = true) : ¬ c < 0x80 := by
  simp [inR, isContB, UInt8.le_iff_toNat_le, UInt8.lt_iff_toNat_lt] at *; omega

theorem ne_E2_of_cont {x : UInt8} (h : isContB x = true) : x ≠ 0xE2 := by
  intro h0; subst h0; simp [isContB, inR] at h

theorem ne_nl_of_cont {x : UInt8} (h : isContB x = true) : x ≠ nl := by
  intro h0; subst h0; simp [isContB, inR, nl] at h

theorem runeStart_of_cont {c : UInt8} (h : isContB c = true) : runeStart c = false := by simp [runeStart, h]

/-- the lead byte of a rune of one, two, three and four bytes: not a continuation byte, and E2 only when it leads
    three bytes -/
theorem lead_facts (c : UInt8) :
    (c < 0x80 → isContB c = false ∧ c ≠ 0xE2) ∧ (inR c 0xC2 0xDF = true → isContB c = false ∧ c ≠ 0xE2) ∧
    (inR c 0xE0 0xEF = true → isContB c = false) ∧ (inR c 0xF0 0xF4 = true → isContB c = false ∧ c ≠ 0xE2) := by
  simp [inR, isContB, UInt8.le_iff_toNat_le, UInt8.lt_iff_toNat_lt, ← UInt8.toNat_inj]; omega

/-- a rune is one non-continuation byte followed by at most three continuation bytes; it is a single
    byte exactly when that byte is ASCII, and three bytes when it starts with E2 -/
structure RuneShape (c : UInt8) (t : Str) : Prop where
  lead : isContB c = false
  conts : ∀ x ∈ t, isContB x = true
  len : t.length ≤ 3
  single : c < 0x80 ↔ t = []
  e2 : c = 0xE2 → t.length = 2

theorem IsRune.shape {r : Str} (h : IsRune r) : ∃ c t, r = c :: t ∧ RuneShape c t := by
  obtain ⟨-, hd⟩ := h
  revert hd
  -- along the branches of `decodeRune`: the invalid exits return `false`, the four valid ones fix the length
  -- (`t` below is what follows the rune: empty, by `hd`)
  fun_cases decodeRune r <;> intro hd <;> try (exact absurd (Prod.mk.inj hd).2 Bool.false_ne_true)
  · rename_i c t h0                                  -- one byte
    obtain rfl : t = [] := by simpa using hd
    obtain ⟨l1, l2⟩ := (lead_facts c).1 h0
    exact ⟨c, [], rfl, l1, nofun, by simp, by simp [h0], fun h => absurd h l2⟩
  · rename_i c h0 h1 b1 t hc                         -- two bytes
    obtain rfl : t = [] := by simpa using hd
    obtain ⟨l1, l2⟩ := (lead_facts c).2.1 h1
    exact ⟨c, [b1], rfl, l1, by simpa using hc, by simp, by simp [h0], fun h => absurd h l2⟩
  · rename_i c h0 _ h2 b1 b2 t _ _ hc                -- three bytes
    obtain rfl : t = [] := by simpa using hd
    rw [Bool.and_eq_true] at hc
    have c1 := isContB_of_inR _ _ _ (ite_ind (P := (0x80 ≤ ·)) (by decide) (by decide))
      (ite_ind (P := (· ≤ 0xBF)) (by decide) (by decide)) hc.1
    exact ⟨c, [b1, b2], rfl, (lead_facts c).2.2.1 h2, by simp [hc.2, c1], by simp, by simp [h0], fun _ => rfl⟩
  · rename_i c h0 _ _ h3 b1 b2 b3 t _ _ hc           -- four bytes
    obtain rfl : t = [] := by simpa using hd
    simp only [Bool.and_eq_true] at hc
    have c1 := isContB_of_inR _ _ _ (ite_ind (P := (0x80 ≤ ·)) (by decide) (by decide))
      (ite_ind (P := (· ≤ 0xBF)) (by decide) (by decide)) hc.1.1
    obtain ⟨l1, l2⟩ := (lead_facts c).2.2.2 h3
    exact ⟨c, [b1, b2, b3], rfl, l1, by simp [hc.2, hc.1.2, c1], by simp, by simp [h0], fun h => absurd h l2⟩

theorem lastRuneInvalid_rune (a r : Str) (h : IsRune r) : lastRuneInvalid (a ++ r) = false := by
  obtain ⟨c, t, rfl, sh⟩ := h.shape
  have hd := h.2
  have ht := sh.conts
  have hs : runeStart c = true := by simp [runeStart, sh.lead]
  -- the decoder looks back from the last byte for the rune start, which is `c`, and decodes `c :: t`
  rcases t with _ | ⟨t1, _ | ⟨t2, _ | ⟨t3, _ | _⟩⟩⟩
  · simp [lastRuneInvalid, List.reverse_append, sh.single.mpr rfl]
  · simp [lastRuneInvalid, not_lt_of_cont (ht t1 (by simp)), List.findIdx?_cons, hs, hd]
  · simp [lastRuneInvalid, not_lt_of_cont (ht t2 (by simp)), List.findIdx?_cons, hs, runeStart_of_cont (ht t1 (by simp)), hd]
  · simp [lastRuneInvalid, not_lt_of_cont (ht t3 (by simp)), List.findIdx?_cons, hs, runeStart_of_cont (ht t1 (by simp)),
      runeStart_of_cont (ht t2 (by simp)), hd]
  · exact absurd sh.len (by simp)

inductive Clean : Str → Prop
  | nil : Clean []
  | cons (r rest : Str) : IsRune r → r ≠ mOpen → r ≠ mClose → Clean rest → Clean (r ++ rest)

theorem Clean_append {a b : Str} (ha : Clean a) (hb : Clean b) : Clean (a ++ b) := by
  induction ha with
  | nil => simpa using hb
  | cons r rest hr h1 h2 _ ih => rw [List.append_assoc]; exact Clean.cons r _ hr h1 h2 ih

theorem IsRune_ascii (c : UInt8) (h : c < 0x80) : IsRune [c] := ⟨List.cons_ne_nil _ _, if_pos h⟩

theorem Clean_of_ascii : (s : Str) → (∀ c ∈ s, c < 0x80) → Clean s
  | [], _ => Clean.nil
  | c :: r, h =>
    Clean.cons [c] r (IsRune_ascii c (h c (by simp))) (by simp [mOpen]) (by simp [mClose])
      (Clean_of_ascii r fun x hx => h x (by simp [hx]))

theorem Clean.ends_in_rune {s : Str} (h : Clean s) (hne : s ≠ []) : ∃ a r, s = a ++ r ∧ IsRune r := by
  induction h with
  | nil => exact absurd rfl hne
  | cons r rest hr _ _ hrest ih =>
    by_cases h0 : rest = []
    · subst h0; exact ⟨[], r, by simp, hr⟩
    · obtain ⟨a, r', he, hr'⟩ := ih h0
      exact ⟨r ++ a, r', by rw [he, List.append_assoc], hr'⟩

theorem lastRuneInvalid_clean (p s : Str) (h : Clean s) (hne : s ≠ []) : lastRuneInvalid (p ++ s) = false := by
  obtain ⟨a, r, rfl, hr⟩ := h.ends_in_rune hne
  rw [← List.append_assoc]
  exact lastRuneInvalid_rune _ r hr

theorem lex_conts : (t rest : Str) → (∀ x ∈ t, isContB x = true) → lex (t ++ rest) = bytesT t ++ lex rest
  | [], rest, _ => rfl
  | x :: t, rest, h => by
    have hx := h x (by simp)
    have : lex (x :: (t ++ rest)) = .b x :: lex (t ++ rest) :=
      lex_b_cons x _ (by intro ⟨h0, _⟩; exact ne_E2_of_cont hx h0)
    simp only [List.cons_append, this, lex_conts t rest (fun y hy => h y (by simp [hy])), bytesT, List.map_cons]

/-- the first byte of a rune that is not a marker does not begin a marker, whatever follows the rune -/
theorem IsRune.no_marker {c : UInt8} {t : Str} (hr : IsRune (c :: t)) (h1 : c :: t ≠ mOpen) (h2 : c :: t ≠ mClose) (rest : Str) :
    ¬ (c = 0xE2 ∧ ∃ c' r', t ++ rest = 0x80 :: c' :: r' ∧ (c' = 0xB9 ∨ c' = 0xBA)) := by
  rintro ⟨rfl, c', r', hs, hc'⟩
  obtain ⟨_, _, he, sh⟩ := hr.shape
  obtain ⟨rfl, rfl⟩ := List.cons.inj he
  have h3 := sh.e2 rfl
  obtain ⟨t1, t2, rfl⟩ : ∃ t1 t2, t = [t1, t2] := by
    rcases t with _ | ⟨t1, _ | ⟨t2, _ | _⟩⟩ <;> simp at h3
    exact ⟨t1, t2, rfl⟩
  obtain ⟨rfl, rfl, -⟩ : t1 = 0x80 ∧ t2 = c' ∧ rest = r' := by simpa using hs
  rcases hc' with rfl | rfl
  · exact h1 rfl
  · exact h2 rfl

theorem nl_rune_single {t : Str} (h : IsRune (nl :: t)) : t = [] := by
  obtain ⟨_, _, he, sh⟩ := h.shape
  obtain ⟨rfl, rfl⟩ := List.cons.inj he
  exact sh.single.mp (by decide)

theorem lex_rune (r rest : Str) (hr : IsRune r) (h1 : r ≠ mOpen) (h2 : r ≠ mClose) :
    lex (r ++ rest) = bytesT r ++ lex rest := by
  obtain ⟨c, t, rfl, sh⟩ := hr.shape
  simp only [List.cons_append, lex_b_cons c _ (hr.no_marker h1 h2 rest), lex_conts t rest sh.conts, bytesT, List.map_cons]

theorem lex_clean {s : Str} (h : Clean s) : lex s = bytesT s := by
  induction h with
  | nil => rfl
  | cons r rest hr h1 h2 _ ih => rw [lex_rune r rest hr h1 h2, ih]; simp [bytesT]

/-! ### the escape loop on clean text, rune by rune -/

def toksOf (brk : Bool) (r : Str) : Toks := r.map (fun c => if brk then Tok.u c else Tok.b c)

theorem unlex_toksOf (brk : Bool) : (r : Str) → unlex (toksOf brk r) = r
  | [] => rfl
  | c :: r => by
    have ih := unlex_toksOf brk r
    cases brk <;> simp [toksOf, unlex] at ih ⊢ <;> exact ih

theorem foldl_escStep_copy (brk : Bool) (r : Str) (acc : Toks) (h : brk = true → ∀ c ∈ r, c ≠ nl) :
    (bytesT r).foldl (escStep brk) acc = acc ++ toksOf brk r := by
  induction r generalizing acc with
  | nil => exact (List.append_nil acc).symm
  | cons c r ih =>
    have e : escStep brk acc (.b c) = acc ++ toksOf brk [c] :=
      if_neg (fun hb => by rw [Bool.and_eq_true, decide_eq_true_eq] at hb; exact h hb.1 c List.mem_cons_self hb.2)
    rw [bytesT, List.map_cons, List.foldl_cons, e, ← bytesT, ih _ (fun hb x hx => h hb x (List.mem_cons_of_mem _ hx)), List.append_assoc]
    rfl

/-! ### token lists that end validly wherever a marker follows -/

/-- `s` ends on a rune boundary: it is empty, or does not end in invalid UTF-8 whatever precedes -/
def EndB (s : Str) : Prop := s = [] ∨ ∀ p, lastRuneInvalid (p ++ s) = false

def isMarker : Tok → Bool
  | .op | .cl => true
  | _ => false

/-- `t` ends on a rune boundary, and so does what precedes each of its markers -/
structure GoodT (t : Toks) : Prop where
  pre : ∀ d x r, t = d ++ x :: r → isMarker x = true → EndB (unlex d)
  fin : EndB (unlex t)

theorem EndB_nil : EndB [] := Or.inl rfl

theorem EndB_append {a b : Str} (ha : EndB a) (hb : EndB b) : EndB (a ++ b) := by
  rcases hb with rfl | hb
  · simpa using ha
  · exact Or.inr (fun p => by rw [← List.append_assoc]; exact hb _)

theorem EndB_clean {s : Str} (h : Clean s) : EndB s := by
  by_cases h0 : s = []
  · exact Or.inl h0
  · exact Or.inr (fun p => lastRuneInvalid_clean p s h h0)

theorem EndB.lastRune {t a : Str} (ht : EndB t) (ha : Clean a) : lastRuneInvalid (t ++ a) = false := by
  by_cases h0 : a = []
  · subst h0
    rcases ht with rfl | h
    · rfl
    · simpa using h []
  · exact lastRuneInvalid_clean t a ha h0

theorem IsRune_mOpen : IsRune mOpen := ⟨by simp [mOpen], by decide⟩
theorem IsRune_mClose : IsRune mClose := ⟨by simp [mClose], by decide⟩

theorem GoodT_nil : GoodT [] := ⟨fun d x r h _ => by simp at h, EndB_nil⟩

theorem GoodT_append {a b : Toks} (ha : GoodT a) (hb : GoodT b) : GoodT (a ++ b) := by
  refine ⟨fun d x r h hx => ?_, by rw [unlex_append]; exact EndB_append ha.fin hb.fin⟩
  rcases List.append_eq_append_iff.mp h with ⟨a', rfl, hb'⟩ | ⟨c', rfl, hc'⟩
  · -- the marker lies in b: d = a ++ a'
    rw [unlex_append]; exact EndB_append ha.fin (hb.pre a' x r hb' hx)
  · -- the marker is the first token of b, or lies in a
    cases c' with
    | nil => simpa using ha.fin
    | cons y c'' =>
      obtain ⟨rfl, rfl⟩ := List.cons.inj hc'
      exact ha.pre d x c'' (by simp) hx

theorem GoodT_marker (x : Tok) (hx : isMarker x = true) : GoodT [x] := by
  refine ⟨fun d y r h _ => ?_, ?_⟩
  · cases d with
    | nil => exact EndB_nil
    | cons z d' => simp at h
  · cases x with
    | op => exact Or.inr fun p => by simpa [unlex] using lastRuneInvalid_rune p mOpen IsRune_mOpen
    | cl => exact Or.inr fun p => by simpa [unlex] using lastRuneInvalid_rune p mClose IsRune_mClose
    | b c | u c => simp [isMarker] at hx

theorem GoodT_of_concat_marker {d : Toks} {x : Tok} (h : GoodT (d ++ [x])) (hx : isMarker x = true) : GoodT d :=
  ⟨fun d' y r hd hy => h.pre d' y (r ++ [x]) (by rw [hd]; simp) hy, h.pre d x [] rfl hx⟩

theorem GoodT_toksOf (brk : Bool) (s : Str) (hs : Clean s) : GoodT (toksOf brk s) :=
  ⟨fun d x r h hx => by
      have : x ∈ toksOf brk s := by rw [h]; simp
      obtain ⟨c, _, rfl⟩ := List.mem_map.mp this
      cases brk <;> simp [isMarker] at hx,
   by rw [unlex_toksOf]; exact EndB_clean hs⟩

theorem GoodT_bytesT (s : Str) (hs : Clean s) : GoodT (bytesT s) := GoodT_toksOf false s hs

theorem GoodT_closeT {t : Toks} (h : GoodT t) : GoodT (closeT t) := by
  obtain ⟨d, rfl, e⟩ | e := closeT_cases t <;> rw [e]
  · exact GoodT_of_concat_marker h rfl
  · exact GoodT_append h (GoodT_marker .cl rfl)

theorem GoodT_openT {t : Toks} (h : GoodT t) : GoodT (openT t) := by
  obtain ⟨d, rfl, e⟩ | e := openT_cases t <;> rw [e]
  · exact GoodT_of_concat_marker h rfl
  · exact GoodT_append h (GoodT_marker .op rfl)

theorem GoodT_escLoopT (brk : Bool) (acc : Toks) (s : Str) (ha : GoodT acc) (hs : Clean s) :
    GoodT (escLoopT brk acc s) := by
  rw [escLoopT_eq_foldl, lex_clean hs]
  induction hs generalizing acc with
  | nil => exact ha
  | cons r rest hr h1 h2 hrest ih =>
    simp only [bytesT, List.map_append, List.foldl_append] at ih ⊢
    apply ih
    obtain ⟨c, t, rfl, sh⟩ := hr.shape
    by_cases hnl : brk = true ∧ c = nl
    · -- a newline (a one-byte rune) in break mode: close, newline, reopen
      obtain ⟨rfl, rfl⟩ := hnl
      obtain rfl := nl_rune_single hr
      have : GoodT (closeT acc ++ bytesT [nl] ++ [.op]) :=
        GoodT_append (GoodT_append (GoodT_closeT ha) (GoodT_bytesT _ (Clean_of_ascii _ (by simp [nl])))) (GoodT_marker .op rfl)
      simpa [escStep, nlT, bytesT] using this
    · rw [show List.map Tok.b (c :: t) = bytesT (c :: t) from rfl, foldl_escStep_copy]
      · exact GoodT_append ha (GoodT_toksOf brk _ (by simpa using Clean.cons _ [] hr h1 h2 Clean.nil))
      · intro hb x hx
        rcases List.mem_cons.mp hx with rfl | hx
        · exact fun h => hnl ⟨hb, h⟩
        · exact ne_nl_of_cont (sh.conts x hx)

theorem escEndT_clean (brk : Bool) {d : Toks} {p : Str} (hd : GoodT d) (hp : Clean p) : escEndT brk d p = escLoopT brk d p := by
  simp [escEndT, hd.fin.lastRune hp]

theorem GoodT_escEndT (brk : Bool) {d : Toks} {p : Str} (hd : GoodT d) (hp : Clean p) : GoodT (escEndT brk d p) := by
  rw [escEndT_clean brk hd hp]; exact GoodT_escLoopT brk d p hd hp

theorem escapeMarkers_clean {s : Str} (h : Clean s) : escapeMarkers s = s := by
  rw [escapeMarkers, lex_clean h, escToks_bytesT]

theorem stripMarkers_clean {s : Str} (h : Clean s) : stripMarkers s = s := by
  rw [show stripMarkers s = stripT (lex s) from rfl, lex_clean h, stripT_bytesT]

end ErrModel
