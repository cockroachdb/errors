import ErrModel.Proofs.LexUnlex
/-
  The OUTSIDE VIEW of a redactable string: its plain bytes that are not between markers, in
  order (`outs`).  A PII-free output is `Redact()` of a redactable string: the outside view is
  kept and every enclosure becomes `‹×›` (`outs_redactT`, `ins_redactT`).  For the redact
  buffer model the outside view of `Sprintf` is a function of the safe pieces and of the
  NEWLINES of the unsafe ones only (`outs_assembleT`): whatever else an unsafe argument
  contains — marker runes, NUL, invalid UTF-8, any text — is not in it.
-/
namespace ErrModel

/-- bytes outside markers, from the state `st` (inside?) -/
def outs : Bool → Toks → Str
  | _, [] => []
  | _, .op :: r => outs true r
  | _, .cl :: r => outs false r
  | st, .b c :: r => if st then outs st r else c :: outs st r
  | st, .u c :: r => if st then outs st r else c :: outs st r

def ins : Bool → Toks → Str
  | _, [] => []
  | _, .op :: r => ins true r
  | _, .cl :: r => ins false r
  | st, .b c :: r => if st then c :: ins st r else ins st r
  | st, .u c :: r => if st then c :: ins st r else ins st r

theorem outs_append {st st' : Bool} {a : Toks} (h : lw st a = some st') (b : Toks) :
    outs st (a ++ b) = outs st a ++ outs st' b := by
  fun_induction lw st a with
  | case1 => cases h; rfl                          -- the end
  | case2 | case5 | case6 | case9 => nomatch h     -- the four illegal tokens: `lw` is `none`
  | case3 _ _ _ ih | case4 _ ih => exact ih h      -- a legal marker
  | case7 st c r _ ih | case8 st c r _ ih => cases st <;> simp [outs, ih h]   -- a legal byte, plain or labelled

theorem outs_append_closed (a b : Toks) (h : LW a) : outs false (a ++ b) = outs false a ++ outs false b :=
  outs_append h b

theorem outs_bytesT (st : Bool) (s : Str) : outs st (bytesT s) = if st then [] else s := by
  induction s with
  | nil => cases st <;> rfl
  | cons c r ih => cases st <;> simp_all [bytesT, outs]

theorem outs_bytes_open (s : Str) : outs true (bytesT s) = [] := outs_bytesT true s

/-! ### the outside view through the moves of the buffer -/

theorem outs_concat_op (st : Bool) (d : Toks) : outs st (d ++ [.op]) = outs st d := by
  induction d generalizing st with
  | nil => rfl
  | cons x r ih => cases x <;> simp [outs, ih]

theorem outs_concat_cl (st : Bool) (d : Toks) : outs st (d ++ [.cl]) = outs st d := by
  induction d generalizing st with
  | nil => rfl
  | cons x r ih => cases x <;> simp [outs, ih]

theorem outs_closeT (t : Toks) : outs false (closeT t) = outs false t := by
  obtain ⟨d, rfl, e⟩ | e := closeT_cases t <;> simp [e, outs_concat_op, outs_concat_cl]

theorem outs_openT (t : Toks) : outs false (openT t) = outs false t := by
  obtain ⟨d, rfl, e⟩ | e := openT_cases t <;> simp [e, outs_concat_op, outs_concat_cl]

def nlsOf (s : Str) : Str := s.filter (· = nl)

theorem nlsOf_append (a b : Str) : nlsOf (a ++ b) = nlsOf a ++ nlsOf b := List.filter_append ..

theorem nlsOf_escapeMarkers (s : Str) : nlsOf (escapeMarkers s) = nlsOf s := by
  unfold escapeMarkers
  fun_induction lex s with
  | case1 r ih | case2 r ih => simpa [escToks, nlsOf, nl] using ih   -- a marker rune: `?` for it
  | case3 x r _ _ ih => simp only [escToks, nlsOf, List.filter_cons] at ih ⊢; rw [ih]   -- any other byte: copied
  | case4 => rfl   -- the end

theorem outs_escStep_true {acc : Toks} (h : lw false acc = some true) (t : Tok) :
    outs false (escStep true acc t) = outs false acc ++ nlsOf (escToks [t]) := by
  cases t with
  | op | cl => simp [escStep, outs_append h, outs, qT, escToks, nlsOf, nl]
  | b c | u c =>
    simp only [escStep, Bool.true_and, decide_eq_true_eq, if_true]
    split
    · simp [outs_append (lw_closeT h), outs_closeT, outs, nlT, escToks, nlsOf, *]
    · simp [outs_append h, outs, escToks, nlsOf, *]

theorem outs_escLoopT_true (acc : Toks) (s : Str) : lw false acc = some true →
    outs false (escLoopT true acc s) = outs false acc ++ nlsOf s := by
  rw [← nlsOf_escapeMarkers, escLoopT_eq_foldl, escapeMarkers]
  generalize lex s = l
  induction l generalizing acc with
  | nil => simp [escToks, nlsOf]
  | cons t l ih =>
    intro h
    rw [List.foldl_cons, ih _ (lw_escStep_true h t), outs_escStep_true h, escToks_cons t l, List.append_assoc, nlsOf_append]

theorem outs_escLoopT_false (acc : Toks) (s : Str) : lw false acc = some false →
    outs false (escLoopT false acc s) = outs false acc ++ escapeMarkers s := by
  intro h; rw [escLoopT_false, outs_append h, outs_bytesT]; rfl

def qOpt (q : Bool) : Str := if q then [qmark] else []

theorem outs_escEndT_true {d : Toks} (h : lw false d = some true) (p : Str) :
    outs false (escEndT true d p) = outs false d ++ nlsOf p := by
  rw [escEndT, outs_append (escLoopT_true_open d p h), outs_escLoopT_true d p h]; split <;> simp [outs, qT]

theorem outs_escEndT_false {d : Toks} (h : lw false d = some false) (p : Str) :
    ∃ q, outs false (escEndT false d p) = outs false d ++ escapeMarkers p ++ qOpt q := by
  refine ⟨lastRuneInvalid (unlex d ++ p), ?_⟩
  rw [escEndT, outs_append (escLoopT_false_closed d p h), outs_escLoopT_false d p h, qOpt]; split <;> simp [outs, qT]

theorem outs_escapeBytesT (s : Str) : outs false (escapeBytesT s) = nlsOf s := by
  rw [escapeBytesT_eq, outs_append (lw_escEndT true rfl s), outs_escEndT_true rfl]; simp [outs]

/-! ### Sprintf: the possible outside views; the unsafe pieces count for their newlines only -/

/-- one piece: (outside view so far, safe bytes written since the last escape) -/
inductive OStep : Str × Str → SegT → Str × Str → Prop
  | lit (o p s : Str) : OStep (o, p) (.lit s) (o, p ++ s)
  | arg (o p s : Str) (q : Bool) : OStep (o, p) (.arg s) (o ++ escapeMarkers p ++ qOpt q ++ nlsOf s, [])
  | pre (o p s : Str) (q : Bool) : OStep (o, p) (.pre s) (o ++ escapeMarkers p ++ qOpt q ++ outs false (lexL s), [])
  | preT (o p : Str) (t : Toks) (q : Bool) : OStep (o, p) (.preT t) (o ++ escapeMarkers p ++ qOpt q ++ outs false t, [])

inductive OSteps : Str × Str → List SegT → Str × Str → Prop
  | nil (x : Str × Str) : OSteps x [] x
  | cons (x y z : Str × Str) (g : SegT) (r : List SegT) : OStep x g y → OSteps y r z → OSteps x (g :: r) z

/-- the possible outside views of `Sprintf(segs)`: the safe pieces with their marker runes
    escaped, the outside views of the redactable pieces, the NEWLINES of the unsafe pieces,
    and `?` marks after a piece that ends in invalid UTF-8 -/
def OutSet (segs : List SegT) (v : Str) : Prop :=
  ∃ o p q, OSteps ([], []) segs (o, p) ∧ v = o ++ escapeMarkers p ++ qOpt q

/-- two piece lists that differ only in their unsafe pieces, whose newlines agree -/
inductive SameSafe : List SegT → List SegT → Prop
  | nil : SameSafe [] []
  | same (g : SegT) (a b : List SegT) : SameSafe a b → SameSafe (g :: a) (g :: b)
  | arg (s s' : Str) (a b : List SegT) : nlsOf s = nlsOf s' → SameSafe a b → SameSafe (.arg s :: a) (.arg s' :: b)

theorem SameSafe_refl : (l : List SegT) → SameSafe l l
  | [] => .nil
  | g :: r => .same g r r (SameSafe_refl r)

theorem SameSafe_at (pre post : List SegT) (s s' : Str) (h : nlsOf s = nlsOf s') :
    SameSafe (pre ++ .arg s :: post) (pre ++ .arg s' :: post) := by
  induction pre with
  | nil => exact .arg s s' post post h (SameSafe_refl post)
  | cons g r ih => exact .same g _ _ ih

theorem OSteps_sameSafe {x z : Str × Str} {a b : List SegT} (h : OSteps x a z) (hs : SameSafe a b) : OSteps x b z := by
  induction hs generalizing x with
  | nil => exact h
  | same g a b _ ih =>
    cases h with
    | cons _ y _ _ _ h1 h2 => exact .cons _ y _ _ _ h1 (ih h2)
  | arg s s' a b hn _ ih =>
    cases h with
    | cons _ y _ _ _ h1 h2 =>
      cases h1 with
      | arg o p _ q =>
        refine .cons _ _ _ _ _ ?_ (ih h2)
        rw [hn]; exact .arg o p s' q

theorem OutSet_sameSafe {a b : List SegT} (hs : SameSafe a b) (v : Str) (h : OutSet a v) : OutSet b v := by
  obtain ⟨o, p, q, h1, h2⟩ := h
  exact ⟨o, p, q, OSteps_sameSafe h1 hs, h2⟩

theorem RBT.OStep_seg (r : RBT) (h : r.Inv) (g : SegT) :
    OStep (outs false r.done, r.pend) g (outs false (r.seg g).done, (r.seg g).pend) := by
  have he := lw_escEndT false h.lwDone r.pend
  obtain ⟨q, hq⟩ := outs_escEndT_false h.lwDone r.pend
  cases g with
  | lit s => rw [RBT.seg_lit r h.mode]; exact .lit _ _ s
  | arg s =>
    rw [RBT.seg_arg r h]
    simp only [outs_closeT, outs_escEndT_true (lw_openT he), outs_openT, hq]
    exact .arg _ _ s q
  | pre s => rw [RBT.seg_pre r h.mode h.closed]; simp only [outs_append he, hq]; exact .pre _ _ s q
  | preT t => rw [RBT.seg_preT r h.mode h.closed]; simp only [outs_append he, hq]; exact .preT _ _ t q

theorem RBT.OSteps_foldl (segs : List SegT) (r : RBT) (h : r.Inv) (hs : ∀ g ∈ segs, g.ok) :
    OSteps (outs false r.done, r.pend) segs (outs false (segs.foldl RBT.seg r).done, (segs.foldl RBT.seg r).pend) := by
  induction segs generalizing r with
  | nil => exact .nil _
  | cons g rest ih =>
    exact .cons _ _ _ _ _ (RBT.OStep_seg r h g) (ih _ (RBT.Inv_seg r h g (hs g (by simp))) (fun x hx => hs x (by simp [hx])))

theorem outs_assembleT (segs : List SegT) (hs : ∀ g ∈ segs, g.ok) : OutSet segs (outs false (assembleT segs)) := by
  have h := RBT.Inv_foldl segs _ RBT.Inv_init hs
  obtain ⟨q, hq⟩ := outs_escEndT_false h.lwDone (segs.foldl RBT.seg (RBT.reset.setMode .safeE)).pend
  refine ⟨_, _, q, ?_, by rw [assembleT, RBT.finalize_done _ h.mode h.closed, hq]⟩
  simpa [RBT.reset_safe, outs] using RBT.OSteps_foldl segs _ RBT.Inv_init hs

theorem outs_assembleT_noninterference (a b : List SegT) (ha : ∀ g ∈ a, g.ok) (hb : ∀ g ∈ b, g.ok)
    (hs : SameSafe a b) :
    OutSet b (outs false (assembleT a)) ∧ OutSet b (outs false (assembleT b)) :=
  ⟨OutSet_sameSafe hs _ (outs_assembleT a ha), outs_assembleT b hb⟩

/-! ### Redact(): the outside view is kept, every enclosure becomes × -/

/-- `×`, the same bytes as `redactedMarkerStr` (Report.lean) -/
def timesB : Str := [0xC3, 0x97]

theorem outs_redactW (st : Bool) (t : Toks) : outs false (redactW st t) = outs st t := by
  induction t generalizing st with
  | nil => rfl
  | cons x r ih => cases x <;> cases st <;> simp [redactW, outs, redactedT, ih]

theorem ins_redactW (st : Bool) (t : Toks) :
    ins false (redactW st t) = (List.replicate (t.count .op) timesB).flatten := by
  induction t generalizing st with
  | nil => rfl
  | cons x r ih => cases x <;> cases st <;> simp [redactW, ins, redactedT, ih, List.replicate_succ, timesB]

theorem noU_redactW (st : Bool) (t : Toks) : ∀ x ∈ redactW st t, ∀ c, x ≠ Tok.u c := by
  suffices (redactW st t).all (fun x => match x with | .u _ => false | _ => true) = true from
    fun x hx c hc => by simpa [hc] using List.all_eq_true.mp this x hx
  induction t generalizing st with
  | nil => rfl
  | cons x r ih => cases x <;> cases st <;> simp [redactW, redactedT, ih]

theorem outs_redactT (t : Toks) : LW t → outs false (redactT t) = outs false t :=
  fun h => by rw [redactT_eq t h, outs_redactW]

theorem ins_redactT (t : Toks) : LW t → ∃ n, ins false (redactT t) = (List.replicate n timesB).flatten :=
  fun h => ⟨_, by rw [redactT_eq t h, ins_redactW]⟩

theorem noU_redactT (t : Toks) : LW t → ∀ x ∈ redactT t, ∀ c, x ≠ Tok.u c :=
  fun h => by rw [redactT_eq t h]; exact noU_redactW false t

end ErrModel
