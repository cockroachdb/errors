import ErrModel.Proofs.LW
/-
  Bytes and tokens.  A token string is read as bytes in three ways: as it is (`unlex`), without
  its markers (`stripT`), with `?` for its markers (`escToks`).  `unlex` followed by `lex` gives
  the tokens back unless three adjacent plain-byte tokens spell a marker rune (E2 80 B9 /
  E2 80 BA) — the one situation in which a byte string has a marker that no piece of it wrote
  as a marker.
-/
namespace ErrModel

theorem unlex_append (a b : Toks) : unlex (a ++ b) = unlex a ++ unlex b := by
  induction a with
  | nil => rfl
  | cons x r ih => cases x <;> simp [unlex, ih, List.append_assoc]

theorem unlex_bytesT : (s : Str) → unlex (bytesT s) = s
  | [] => rfl
  | c :: r => congrArg (c :: ·) (unlex_bytesT r)

@[simp] theorem stripT_nil : stripT [] = [] := rfl
@[simp] theorem stripT_op (r : Toks) : stripT (.op :: r) = stripT r := rfl
@[simp] theorem stripT_cl (r : Toks) : stripT (.cl :: r) = stripT r := rfl
@[simp] theorem stripT_b (c : UInt8) (r : Toks) : stripT (.b c :: r) = c :: stripT r := rfl
@[simp] theorem stripT_u (c : UInt8) (r : Toks) : stripT (.u c :: r) = c :: stripT r := rfl

theorem stripT_append (a b : Toks) : stripT (a ++ b) = stripT a ++ stripT b := by
  induction a with
  | nil => rfl
  | cons x r ih => cases x <;> simp [ih]

theorem stripT_bytesT : (s : Str) → stripT (bytesT s) = s
  | [] => rfl
  | c :: r => congrArg (c :: ·) (stripT_bytesT r)

theorem stripT_bytesU (s : Str) : stripT (bytesU s) = s := by
  induction s with
  | nil => rfl
  | cons c r ih => simp only [bytesU, List.map_cons] at ih ⊢; split <;> simp [ih]

theorem stripT_relabel (st : Bool) (t : Toks) : stripT (relabel st t) = stripT t := by
  fun_induction relabel st t with
  | case4 st c r ih => cases st <;> simp [ih]   -- a plain byte, labelled when inside
  | _ => simp [*]

theorem stripT_lexL (s : Str) : stripT (lexL s) = stripMarkers s := stripT_relabel false (lex s)

theorem escToks_cons (t : Tok) (l : List Tok) : escToks (t :: l) = escToks [t] ++ escToks l := by cases t <;> rfl

theorem escToks_bytesT : (s : Str) → escToks (bytesT s) = s
  | [] => rfl
  | c :: r => congrArg (c :: ·) (escToks_bytesT r)

/-! ### `lex` after `unlex`: the tokens without their labels -/

def eraseLabel : Toks → Toks
  | [] => []
  | .u c :: r => .b c :: eraseLabel r
  | x :: r => x :: eraseLabel r

theorem unlex_eraseLabel (t : Toks) : unlex (eraseLabel t) = unlex t := by
  induction t with
  | nil => rfl
  | cons x r ih => cases x <;> simp [eraseLabel, unlex, ih]

theorem stripT_eraseLabel : (t : Toks) → stripT (eraseLabel t) = stripT t
  | [] => rfl
  | .op :: r | .cl :: r => stripT_eraseLabel r
  | .b c :: r | .u c :: r => congrArg (c :: ·) (stripT_eraseLabel r)

theorem lw_eraseLabel {t : Toks} {st st' : Bool} (h : lw st t = some st') : lw st (eraseLabel t) = some st' := by
  -- `.u c` becomes `.b c`, which is legal wherever `.u c` is (inside, `c` not a newline)
  fun_induction lw st t <;> simp_all [eraseLabel, lw]

def spellsAt : Toks → Bool
  | .b 0xE2 :: .b 0x80 :: .b 0xB9 :: _ => true
  | .b 0xE2 :: .b 0x80 :: .b 0xBA :: _ => true
  | _ => false

def NoSpell : Toks → Prop
  | [] => True
  | x :: r => spellsAt (x :: r) = false ∧ NoSpell r

theorem lex_mOpen (s : Str) : lex (mOpen ++ s) = .op :: lex s := by
  simp [mOpen, lex]

theorem lex_mClose (s : Str) : lex (mClose ++ s) = .cl :: lex s := by
  simp [mClose, lex]

theorem lex_b_cons (x : UInt8) (s : Str)
    (h : ¬ (x = 0xE2 ∧ ∃ c r, s = 0x80 :: c :: r ∧ (c = 0xB9 ∨ c = 0xBA))) : lex (x :: s) = .b x :: lex s := by
  rw [lex]
  · exact fun r hx hs => h ⟨hx, 0xB9, r, hs, Or.inl rfl⟩
  · exact fun r hx hs => h ⟨hx, 0xBA, r, hs, Or.inr rfl⟩

theorem unlex_eq_cons {r : Toks} (hu : ∀ x ∈ r, ∀ c, x ≠ Tok.u c) {y : UInt8} {s : Str} (h : unlex r = y :: s) (hy : y ≠ 0xE2) :
    ∃ r', r = .b y :: r' ∧ unlex r' = s := by
  rcases r with _ | ⟨_ | _ | z | z, r'⟩
  · nomatch h
  · exact absurd (List.cons.inj h).1.symm hy
  · exact absurd (List.cons.inj h).1.symm hy
  · obtain ⟨rfl, rfl⟩ := List.cons.inj h
    exact ⟨r', rfl, rfl⟩
  · exact absurd rfl (hu _ List.mem_cons_self z)

theorem lex_unlex : (t : Toks) → (∀ x ∈ t, ∀ c, x ≠ Tok.u c) → NoSpell t → lex (unlex t) = t
  | [], _, _ => rfl
  | .op :: r, hu, h => by
    rw [unlex, lex_mOpen, lex_unlex r (fun x hx => hu x (by simp [hx])) h.2]
  | .cl :: r, hu, h => by
    rw [unlex, lex_mClose, lex_unlex r (fun x hx => hu x (by simp [hx])) h.2]
  | .u x :: r, hu, h => absurd rfl (hu (.u x) (by simp) x)
  | .b x :: r, hu, h => by
    rw [unlex, lex_b_cons, lex_unlex r (fun x hx => hu x (by simp [hx])) h.2]
    -- otherwise the next two bytes come from two plain-byte tokens: a spelled marker
    rintro ⟨rfl, c, s, hs, hc⟩
    have hc' : c ≠ 0xE2 := by rcases hc with rfl | rfl <;> decide
    obtain ⟨r1, rfl, h1⟩ := unlex_eq_cons (fun x hx => hu x (by simp [hx])) hs (by decide)
    obtain ⟨r2, rfl, -⟩ := unlex_eq_cons (fun x hx => hu x (by simp [hx])) h1 hc'
    rcases hc with rfl | rfl <;> exact absurd h.1 (by simp [spellsAt])

theorem eraseLabel_noU (t : Toks) : ∀ x ∈ eraseLabel t, ∀ c, x ≠ Tok.u c := by
  induction t with
  | nil => exact fun _ h => nomatch h
  | cons x r ih => cases x <;> exact List.forall_mem_cons.mpr ⟨nofun, ih⟩

theorem lex_unlex_erase (t : Toks) (h : NoSpell (eraseLabel t)) : lex (unlex t) = eraseLabel t := by
  rw [← unlex_eraseLabel]
  exact lex_unlex _ (eraseLabel_noU t) h

end ErrModel
