import ErrModel.Proofs.EngineLW
import ErrModel.Proofs.Prefix
import ErrModel.Proofs.Utf8
/-
  Transparency of the formatting engine on REGULAR text: what `StripMarkers` gives back, and
  how the write machine treats text whose newlines are interior and isolated.
-/
namespace ErrModel

theorem stripT_closeT (t : Toks) : stripT (closeT t) = stripT t := by
  obtain ⟨d, rfl, e⟩ | e := closeT_cases t <;> simp [e, stripT_append]

theorem stripT_openT (t : Toks) : stripT (openT t) = stripT t := by
  obtain ⟨d, rfl, e⟩ | e := openT_cases t <;> simp [e, stripT_append]

theorem stripT_escStep (brk : Bool) (acc : Toks) (t : Tok) : stripT (escStep brk acc t) = stripT acc ++ escToks [t] := by
  cases t with
  | op | cl => simp [escStep, stripT_append, escToks, qT, qmark]
  | b c | u c =>
    simp only [escStep]
    split
    · simp_all [stripT_append, stripT_closeT, escToks, nlT]
    · cases brk <;> simp [stripT_append, escToks]

/-- escaping (in either mode) only replaces marker runes by `?`: stripped, the result is the
    content with its marker runes escaped -/
theorem stripT_escLoopT (brk : Bool) (acc : Toks) (s : Str) :
    stripT (escLoopT brk acc s) = stripT acc ++ escapeMarkers s := by
  rw [escLoopT_eq_foldl, escapeMarkers]
  generalize lex s = l
  induction l generalizing acc with
  | nil => simp [escToks]
  | cons t l ih => rw [List.foldl_cons, ih, stripT_escStep, escToks_cons t l, List.append_assoc]

theorem stripT_escEndT (brk : Bool) {d : Toks} {p : Str} (hd : GoodT d) (hp : Clean p) :
    stripT (escEndT brk d p) = stripT d ++ p := by
  rw [escEndT_clean brk hd hp, stripT_escLoopT, escapeMarkers_clean hp]

/-! ### regular text is clean: valid UTF-8 without marker runes (Proofs/Utf8.lean)

  `Ascii s` means `Clean s`: a concatenation of complete, valid, non-marker runes; `AllAsciiT` means `GoodT`.
  ASCII text is the simplest case (`Clean_of_ascii`). -/

abbrev Ascii (s : Str) : Prop := Clean s

theorem lex_ascii (s : Str) (h : Ascii s) : lex s = bytesT s := lex_clean h

theorem stripMarkers_ascii (s : Str) (h : Ascii s) : stripMarkers s = s := stripMarkers_clean h

theorem lastRuneInvalid_nil : lastRuneInvalid [] = false := rfl

theorem lastRuneInvalid_mClose (p : Str) : lastRuneInvalid (p ++ mClose) = false :=
  lastRuneInvalid_rune p mClose IsRune_mClose

/-! ### Sprintf on clean pieces: stripping the markers gives the pieces back -/

abbrev AllAsciiT (t : Toks) : Prop := GoodT t

theorem AllAsciiT_bytesT {s : Str} (h : Ascii s) : AllAsciiT (bytesT s) := GoodT_bytesT s h

/-- the pieces a Sprintf is given: text that is clean (valid UTF-8, no marker rune), redactable pieces that are
    `GoodT` and well-formed -/
def SegT.clean : SegT → Prop
  | .lit s => Clean s
  | .arg s => Clean s
  | .pre s => GoodT (lexL s) ∧ LW (lexL s)
  | .preT t => GoodT t ∧ LW t

theorem SegT.clean.ok {g : SegT} (h : g.clean) : g.ok := by
  cases g <;> first | trivial | exact h.2

/-- what a piece contributes once the markers are stripped -/
def SegT.content : SegT → Str
  | .lit s => s
  | .arg s => s
  | .pre s => stripMarkers s
  | .preT t => stripT t

/-- the buffer between two pieces: finished part `GoodT`, pending part clean; stripped, it reads `o` -/
structure RBT.CleanInv (r : RBT) (o : Str) : Prop where
  inv : r.Inv
  good : GoodT r.done
  pend : Clean r.pend
  strip : stripT r.done ++ r.pend = o

theorem RBT.CleanInv_seg (r : RBT) (o : Str) (h : r.CleanInv o) (g : SegT) (hg : g.clean) :
    (r.seg g).CleanInv (o ++ g.content) := by
  obtain ⟨hinv, ha, hp, rfl⟩ := h
  have hI := RBT.Inv_seg r hinv g hg.ok
  have e1 := stripT_escEndT false ha hp
  have e2 := GoodT_escEndT false ha hp
  cases g with
  | lit s =>
    rw [RBT.seg_lit r hinv.mode] at hI ⊢
    exact ⟨hI, ha, Clean_append hp hg, by simp [SegT.content]⟩
  | pre s =>
    rw [RBT.seg_pre r hinv.mode hinv.closed] at hI ⊢
    exact ⟨hI, GoodT_append e2 hg.1, Clean.nil, by simp [SegT.content, stripT_append, e1, stripT_lexL]⟩
  | preT t =>
    rw [RBT.seg_preT r hinv.mode hinv.closed] at hI ⊢
    exact ⟨hI, GoodT_append e2 hg.1, Clean.nil, by simp [SegT.content, stripT_append, e1]⟩
  | arg s =>
    rw [RBT.seg_arg r hinv] at hI ⊢
    have g2 := GoodT_openT e2
    exact ⟨hI, GoodT_closeT (GoodT_escEndT true g2 hg), Clean.nil,
      by simp [SegT.content, stripT_closeT, stripT_escEndT true g2 hg, stripT_openT, e1]⟩

theorem stripT_assembleT_clean (segs : List SegT) (hs : ∀ g ∈ segs, g.clean) :
    stripT (assembleT segs) = segs.flatMap SegT.content := by
  have hfold : ∀ (l : List SegT) (r : RBT) (o : Str), r.CleanInv o → (∀ g ∈ l, g.clean) →
      (l.foldl RBT.seg r).CleanInv (o ++ l.flatMap SegT.content) := by
    intro l
    induction l with
    | nil => intro r o h _; simpa using h
    | cons g rest ih =>
      intro r o h hl
      simpa using ih (r.seg g) _ (RBT.CleanInv_seg r o h g (hl g (by simp))) (fun x hx => hl x (by simp [hx]))
  have h0 : (RBT.reset.setMode .safeE).CleanInv [] := by
    rw [RBT.reset_safe]; exact ⟨⟨rfl, rfl, rfl⟩, GoodT_nil, Clean.nil, rfl⟩
  obtain ⟨hinv, ha, hp, hst⟩ := hfold segs _ [] h0 hs
  rw [assembleT, RBT.finalize_done _ hinv.mode hinv.closed, stripT_escEndT false ha hp, hst]
  rfl

/-! ### the write machine on regular text (non-detail mode) -/

/-- `NlOK ne pend t`: reading `t` with "something has been written" = `ne` and "a newline is
    pending" = `pend`, every newline token comes after some text and not right after another newline.
    No proof uses it: they use the byte version `NlOKb`, through `RegFrom`. -/
def NlOK : Bool → Bool → Toks → Prop
  | _, _, [] => True
  | ne, pend, x :: r => if x = nlT then (ne = true ∧ pend = false ∧ NlOK ne true r) else NlOK true false r

theorem NlOK_mono : (t : Toks) → (ne pend : Bool) → NlOK ne pend t → NlOK true false t
  | [], _, _, _ => trivial
  | x :: r, ne, pend, h => by
    unfold NlOK at *
    by_cases hc : x = nlT
    · simp only [hc, if_true] at h ⊢
      obtain ⟨rfl, _, h1⟩ := h; simp [h1]
    · simpa only [hc, if_false] using h

def NlOKb : Bool → Bool → Str → Prop
  | _, _, [] => True
  | ne, pend, c :: r => if c = nl then (ne = true ∧ pend = false ∧ NlOKb ne true r) else NlOKb true false r

def nlEndb : Bool → Bool → Str → Bool × Bool
  | ne, pend, [] => (ne, pend)
  | ne, _, c :: r => if c = nl then nlEndb ne true r else nlEndb true false r

/-- clean, non-empty text that begins and ends with a non-newline byte and has no two newlines in a row -/
structure Reg (s : Str) : Prop where
  ascii : Ascii s
  ne : s ≠ []
  ok : NlOKb false false s
  fin : (nlEndb false false s).2 = false

/-- the rest of a regular text, read with "something has been written" = `ne` and "a newline is
    pending" = `pend` -/
def RegFrom (ne pend : Bool) (s : Str) : Prop := NlOKb ne pend s ∧ (nlEndb ne pend s).2 = false

theorem RegFrom.mono : {s : Str} → {ne pend : Bool} → RegFrom ne pend s → RegFrom true false s
  | [], _, _, _ => ⟨trivial, rfl⟩
  | c :: r, ne, pend, h => by
    unfold RegFrom NlOKb nlEndb at *
    by_cases hc : c = nl
    · simp only [hc, if_true] at h ⊢
      obtain ⟨⟨rfl, _, h1⟩, h2⟩ := h; simp [h1, h2]
    · simpa only [hc, if_false] using h

theorem RegFrom.tok {x : Tok} {r : Toks} {ne pend : Bool} (hx : x ≠ nlT) (h : RegFrom ne pend (stripT (x :: r))) :
    RegFrom true false (stripT r) := by
  cases x with
  | op => exact h.mono
  | cl => exact h.mono
  | b c =>
    have : c ≠ nl := fun h0 => hx (by rw [h0]; rfl)
    simpa [RegFrom, NlOKb, nlEndb, this] using h
  | u c =>
    by_cases hc : c = nl
    · have h' : RegFrom ne true (stripT r) := by
        simp only [RegFrom, stripT_u, NlOKb, nlEndb, hc, if_true] at h; exact ⟨h.1.2.2, h.2⟩
      exact h'.mono
    · simpa [RegFrom, NlOKb, nlEndb, hc] using h

/-- non-detail mode, the rest of a regular text: the tokens go into the buffer as they are.  A newline
    waits in `needNewline` for the next token, which comes, since the text does not end in one. -/
theorem writeLoop_reg (rest : Toks) (s : LState) (chunk : Toks) (hd : s.wantDetail = false) (hsp : s.needSpace = false)
    (hp : s.needNewline = 0 ∨ s.needNewline = 1 ∧ s.notEmpty = true ∧ chunk = [])
    (hr : RegFrom s.notEmpty (s.needNewline == 1) (stripT rest)) :
    (writeLoop s chunk rest).buf = s.buf ++ chunk ++ (if s.needNewline = 1 then [nlT] else []) ++ rest ∧
    (writeLoop s chunk rest).headBuf = s.headBuf ∧ (writeLoop s chunk rest).wantDetail = false := by
  fun_induction writeLoop s chunk rest with
  | case1 s chunk =>    -- the end of the text
    have : s.needNewline ≠ 1 := by simpa [RegFrom, nlEndb] using hr.2
    simp [this, hd]
  | case2 s chunk r s1 s2 ih =>
    -- a newline comes after some text and not after another newline: it is kept pending
    obtain ⟨⟨hne, hpend, h1⟩, h2⟩ : (s.notEmpty = true ∧ (s.needNewline == 1) = false ∧ NlOKb s.notEmpty true (stripT r)) ∧
        (nlEndb s.notEmpty true (stripT r)).2 = false := by
      simpa [RegFrom, NlOKb, nlEndb, nlT] using hr
    have hn : s.needNewline = 0 := hp.resolve_right (fun h => by simp [h.1] at hpend)
    have e2 : s2 = s1 := if_neg (by simp [s1, hd])
    simpa [e2, s1, hn, hne, nlT] using
      ih (by simp [e2, s1, hd]) (by simp [e2, s1]) (by simp [e2, s1, hn, hne]) (by simpa [e2, s1, hn] using ⟨h1, h2⟩)
  | case3 s chunk c r hc sep pad s1 ih =>    -- any other token
    have hr' := hr.tok hc
    rcases hp with hn | ⟨hn, hne, rfl⟩
    · have e1 : s1 = s := by simp [s1, hn, hsp]
      simpa [e1, hn, hd, hsp] using ih (by simp [e1, hd]) (by simp [e1, hsp]) (by simp [e1, hn]) (by simpa [e1, hn] using hr')
    · -- the pending newline is written before the token
      have e1 : s1 = { s with buf := s.buf ++ nlTs, needNewline := 0, needSpace := false } := by simp [s1, hn, hne, hd, sep, pad]
      simpa [e1, hn, hd, hsp, nlTs] using ih (by simp [e1, hd]) (by simp [e1]) (by simp [e1]) (by simpa [e1] using hr')

theorem write_fresh (t : Toks) (h : t = [] ∨ Reg (stripT t)) :
    (({ wantDetail := false } : LState).write t).buf = t ∧
    (({ wantDetail := false } : LState).write t).headBuf = [] ∧
    (({ wantDetail := false } : LState).write t).wantDetail = false := by
  unfold LState.write
  split
  · rename_i h0; subst h0; exact ⟨rfl, rfl, rfl⟩
  · rcases h with h | h
    · contradiction
    · simpa using writeLoop_reg t { wantDetail := false } [] rfl rfl (Or.inl rfl) ⟨h.ok, h.fin⟩

/-! ### the one-line layout, stripped -/

theorem stripT_escapeBytesT_clean (x : Str) (h : Clean x) : stripT (escapeBytesT x) = x := by
  simp [escapeBytesT_eq, stripT_append, stripT_escEndT true (GoodT_marker .op rfl) h]

theorem stripT_escIfNeeded (red : Bool) (en : Entry) (h : Clean (stripT en.head)) :
    stripT (escIfNeeded red en en.head) = stripT en.head := by
  unfold escIfNeeded
  split
  · rfl
  · exact stripT_escapeBytesT_clean _ h

/-- `a: b`, or the one of the two that is not empty: how the one-line layout joins the layers -/
def joinCS (a b : Str) : Str := if a = [] then b else if b = [] then a else a ++ colonSp ++ b

@[simp] theorem joinCS_nil_left (b : Str) : joinCS [] b = b := rfl
@[simp] theorem joinCS_nil_right (a : Str) : joinCS a [] = a := by by_cases h : a = [] <;> simp [joinCS, h]
theorem joinCS_eq_nil {a b : Str} : joinCS a b = [] ↔ a = [] ∧ b = [] := by
  by_cases ha : a = [] <;> by_cases hb : b = [] <;> simp [joinCS, ha, hb]
theorem joinCS_assoc (a b c : Str) : joinCS (joinCS a b) c = joinCS a (joinCS b c) := by
  by_cases ha : a = [] <;> by_cases hb : b = [] <;> by_cases hc : c = [] <;> simp [joinCS, ha, hb, hc]

/-- what an entry contributes to the one-line form, markers stripped -/
def Entry.txt (en : Entry) : Str := if en.elideShort then [] else stripT en.head

def GoodHead (en : Entry) : Prop := en.head = [] ∨ stripT en.head ≠ []

theorem GoodHead_markElided (l : List Entry) (h : ∀ en ∈ l, GoodHead en) : ∀ en ∈ markElided l, GoodHead en := by
  intro en hen
  obtain ⟨e0, h0, rfl⟩ := List.mem_map.mp hen
  exact h e0 h0

/-- an entry the one-line layout treats alike on tokens and on stripped text: if shown, its head is not
    made of markers only; its text is clean (so that escaping it changes nothing) -/
structure Entry.StripOK (en : Entry) : Prop where
  head : en.elideShort = false → GoodHead en
  clean : Clean en.txt

def Entry.Shows (en : Entry) (T : Str) : Prop := en.txt = T ∧ en.StripOK

theorem Entry.shows_of_txt {en : Entry} {T : Str} (h : en.txt = T) (hne : T ≠ []) (hc : Clean T) : en.Shows T :=
  ⟨h, fun hel => Or.inr (by rw [← h, Entry.txt, hel] at hne; exact hne), h ▸ hc⟩

def shortText (E : List Entry) : Str := E.foldl (fun inner en => joinCS en.txt inner) []

theorem shortText_snoc (sub : List Entry) (en : Entry) : shortText (sub ++ [en]) = joinCS en.txt (shortText sub) := by
  simp [shortText]

theorem slStep_txt (red : Bool) (acc : Toks) (en : Entry) (ha : stripT acc = [] → acc = []) (hen : en.StripOK) :
    stripT (slStep red acc en) = joinCS (stripT acc) en.txt ∧ (stripT (slStep red acc en) = [] → slStep red acc en = []) := by
  unfold slStep Entry.txt
  by_cases hel : en.elideShort = true
  · simpa [hel] using ha
  · have hel' : en.elideShort = false := by simpa using hel
    have hc : Clean (stripT en.head) := by simpa [Entry.txt, hel'] using hen.clean
    by_cases hh : en.head = []
    · simpa [hel', hh] using ha
    · have hs : stripT en.head ≠ [] := (hen.head hel').resolve_left hh
      have hX : stripT (escIfNeeded red en en.head) = stripT en.head := stripT_escIfNeeded red en hc
      by_cases h0 : acc = []
      · subst h0; simp [hel', hh, hX, hs]
      · have : stripT acc ≠ [] := fun h1 => h0 (ha h1)
        simp [hel', hh, h0, stripT_append, colonSpT, stripT_bytesT, hX, joinCS, this, hs]

theorem stripT_singleLine (red : Bool) (E : List Entry) (h : ∀ en ∈ E, en.StripOK) : stripT (singleLine red E) = shortText E := by
  have : ∀ (m : List Entry) (acc : Toks), (∀ en ∈ m, en.StripOK) → (stripT acc = [] → acc = []) →
      stripT (m.foldl (slStep red) acc) = joinCS (stripT acc) (m.foldr (fun en inner => joinCS en.txt inner) []) := by
    intro m
    induction m with
    | nil => intro acc _ _; simp
    | cons en r ih =>
      intro acc hm ha
      obtain ⟨s1, s2⟩ := slStep_txt red acc en ha (hm en (by simp))
      rw [List.foldl_cons, ih _ (fun x hx => hm x (by simp [hx])) s2, s1, joinCS_assoc, List.foldr_cons]
  rw [show singleLine red E = E.reverse.foldl (slStep red) [] from rfl, this _ [] (fun en hen => h en (by simpa using hen)) (fun _ => rfl)]
  simp [shortText, List.foldr_reverse]

/-! ### what a layer's script shows in one-line mode -/

theorem markElided_shortText (l : List Entry) : shortText (markElided l) = [] ∧ ∀ en ∈ markElided l, en.StripOK := by
  have h : ∀ en ∈ markElided l, en.elideShort = true := by
    intro en hen
    obtain ⟨e0, _, rfl⟩ := List.mem_map.mp hen
    rfl
  exact ⟨(markElided l).foldlRecOn (motive := (· = [])) _ rfl fun _ hi en hen => by simp [hi, Entry.txt, h en hen],
    fun en hen => ⟨fun h0 => by simp [h en hen] at h0, by simp [Entry.txt, h en hen, Clean.nil]⟩⟩

/-- in one-line mode the script amounts to one write of a token string over the text `T`, regular or empty;
    the entry collected from it then shows `T` (`entry_shows`, `Entry.Shows`) -/
def Shows (ops : List POp) (T : Str) : Prop :=
  ∃ t, runOps false ops = ({ wantDetail := false } : LState).write t ∧ stripT t = T ∧ (t = [] ∨ Reg T)

theorem Shows.none : Shows [] [] := ⟨[], rfl, rfl, Or.inl rfl⟩

theorem Shows.plain {s : Str} (h : Reg s) : Shows [.plain s] s := ⟨bytesU s, rfl, stripT_bytesU s, Or.inr h⟩

theorem Shows.plainOpt {s : Str} (h : s = [] ∨ Reg s) : Shows (if s ≠ [] then [.plain s] else []) s := by
  rcases h with rfl | h
  · exact Shows.none
  · simpa [h.ne] using Shows.plain h

theorem Shows.safe {segs : List SegT} {T : Str} (hs : ∀ g ∈ segs, g.clean) (hT : segs.flatMap SegT.content = T) (hr : Reg T) :
    Shows [.safe segs] T :=
  ⟨assembleT segs, rfl, by rw [stripT_assembleT_clean segs hs, hT], Or.inr hr⟩

theorem Shows.piece (g : SegT) (hg : g.clean) (h : Reg g.content) : Shows [.safe [g]] g.content :=
  Shows.safe (by simpa using hg) (by simp) h

theorem entry_shows {ops : List POp} {T : Str} (h : Shows ops T) (b red wd : Bool) (d : Nat) (ts : Str) :
    (collect (runOps false ops) b red wd d ts).Shows T := by
  obtain ⟨t, hrun, rfl, ht⟩ := h
  obtain ⟨h1, h2, h3⟩ := write_fresh t ht
  rw [← hrun] at h1 h2 h3
  generalize runOps false ops = s at h1 h2 h3
  have hc : (collect s b red wd d ts).elideShort = false ∧
      (collect s b red wd d ts).head = if b && !red then bytesT (stripT t) else t := by
    unfold collect; cases b <;> cases red <;> simp [h1, h2, h3]
  have hs : (collect s b red wd d ts).txt = stripT t := by
    rw [Entry.txt, hc.1, hc.2, if_neg Bool.false_ne_true]; split <;> simp [stripT_bytesT]
  rcases ht with rfl | hr
  · exact ⟨hs, fun _ => Or.inl (by simp [hc.2, bytesT]), hs ▸ Clean.nil⟩
  · exact Entry.shows_of_txt hs hr.ne hr.ascii

theorem withStackOf_shows {en : Entry} {T : Str} (h : en.Shows T) (ls : Stack) (st : Option Stack) :
    (withStackOf en ls st).1.Shows T := by
  unfold withStackOf; split <;> exact ⟨h.1, h.2.head, h.2.clean⟩

/-- a stored redactable string (message, prefix): clean, well-formed, regular once stripped -/
structure RegR (p : Str) : Prop where
  ascii : AllAsciiT (lexL p)
  lw : LW (lexL p)
  reg : Reg (stripMarkers p)

theorem RegR.shows {p : Str} (h : RegR p) : Shows [.safe [.pre p]] (stripMarkers p) :=
  Shows.piece (.pre p) ⟨h.ascii, h.lw⟩ h.reg

/-- the leaves whose text must be regular for `%v = Error()` -/
def LeafKind.regular (k : LeafKind) : Prop :=
  Reg (leafText k) ∧ (match k with | .leafError msg => RegR msg | _ => True)

/-- the wrapper kinds that print nothing of their own in one-line mode: `WrapKind.isAnnot` (Props/C10.lean)
    without `.pkgWithStack`, which formatSimple prints (`WrapKind.simple`) -/
def WrapKind.annotation : WrapKind → Bool
  | .withStack _ | .withHint _ | .withDetail _ | .withIssueLink .. | .withTelemetry _ | .withDomain _
  | .withContext .. | .withAssertionFailure | .withSafeDetails _ | .withMark .. | .withHTTPCode _ | .withGrpcCode _ => true
  | _ => false

/-- the wrapper kinds printed by formatSimple (prefix extracted from the two Error() texts) -/
def WrapKind.simple : WrapKind → Bool
  | .pkgWithMessage _ | .pkgWithStack _ | .fmtWrapError _ | .user .. => true
  | _ => false

def WrapKind.regular (k : WrapKind) (ct : Str) : Prop :=
  match k with
  | .withPrefix p => p = [] ∨ RegR p
  | .withNewMessage m => RegR m
  | .opaqueWrapper p _ mt _ => if mt = mtFull then Reg p else (p = [] ∨ Reg p)
  | .pathError op path => Reg (op ++ sp ++ path) ∧ Ascii op ∧ Ascii path
  | .linkError op old new => Reg (op ++ sp ++ old ++ sp ++ new) ∧ Ascii op ∧ Ascii old ∧ Ascii new
  | .syscallError scn => Reg scn
  | .pkgWithMessage _ | .pkgWithStack _ | .fmtWrapError _ | .user .. =>
    wrapText k ct ≠ colonSp ++ ct ∧ wrapText k ct ≠ [] ∧
      ((extractPrefix (wrapText k ct) ct).1 = [] ∨ Reg (extractPrefix (wrapText k ct) ct).1)
  | _ => True

theorem sp_clean : Clean sp := Clean_of_ascii sp (by decide)

theorem joinCS_pfx {p ct : Str} (hp : p ≠ []) (hct : ct ≠ []) : joinCS p ct = pfx p ct := by simp [joinCS, hp, hct, pfx]

theorem joinCS_opaque (p : Str) (mt : Nat) {ct : Str} (hct : ct ≠ []) :
    joinCS p (if mt = mtFull then [] else ct) = opaqueText p mt ct := by
  unfold opaqueText joinCS pfx
  by_cases hm : mt = mtFull <;> by_cases hp : p = [] <;> simp [hm, hp, hct]

theorem assembleT_pre_nil : assembleT [.pre []] = [] := by
  simp [assembleT, RBT.reset_safe, RBT.seg_pre, RBT.finalize_done, escEndT, escLoopT, lastRuneInvalid, unlex, lexL, lex, relabel]

theorem wrapOpsOf_annotation {k : WrapKind} (h : k.annotation = true) (ct : Str) :
    (wrapOpsOf k false ct).1 = [] ∧ (wrapOpsOf k false ct).2.1 = false ∧ wrapText k ct = ct := by
  cases k <;> simp [WrapKind.annotation] at h <;> exact ⟨rfl, rfl, rfl⟩

theorem wrapOpsOf_simple {k : WrapKind} (h : k.simple = true) (detail : Bool) (ct : Str) :
    wrapOpsOf k detail ct = ((simpleWrapOps (wrapText k ct) ct).1, (simpleWrapOps (wrapText k ct) ct).2, false) := by
  cases k <;> simp [WrapKind.simple] at h <;> rfl

theorem WrapKind.regular_simple {k : WrapKind} (h : k.simple = true) {ct : Str} (hk : k.regular ct) :
    wrapText k ct ≠ colonSp ++ ct ∧ wrapText k ct ≠ [] ∧
      ((extractPrefix (wrapText k ct) ct).1 = [] ∨ Reg (extractPrefix (wrapText k ct) ct).1) := by
  cases k <;> simp [WrapKind.simple] at h <;> exact hk

/-- what a wrapper layer shows in one-line mode, its own text `T` before the cause's or instead of it,
    is its Error() text -/
theorem wrapOpsOf_shows (k : WrapKind) (ct : Str) (hct : ct ≠ []) (hk : k.regular ct) :
    ∃ T, Shows (wrapOpsOf k false ct).1 T ∧
      joinCS T (if (wrapOpsOf k false ct).2.1 then [] else ct) = wrapText k ct ∧
      (T = [] → (wrapOpsOf k false ct).2.1 = false) := by
  by_cases ha : k.annotation = true
  · obtain ⟨h1, h2, h3⟩ := wrapOpsOf_annotation ha ct
    exact ⟨[], h1 ▸ Shows.none, by simp [h2, h3], fun _ => h2⟩
  by_cases hs : k.simple = true
  · obtain ⟨h1, h2, h3⟩ := WrapKind.regular_simple hs hk
    have hre := extract_reassemble (wrapText k ct) ct h1
    rw [wrapOpsOf_simple hs]
    refine ⟨_, Shows.plainOpt h3, by simpa [simpleWrapOps, joinCS_opaque _ _ hct] using hre, fun h0 => ?_⟩
    by_cases hm : (extractPrefix (wrapText k ct) ct).2 = mtFull
    · exact absurd (by simpa [opaqueText, hm, h0] using hre.symm) h2
    · simp [simpleWrapOps, hm]
  cases k with
  | withPrefix p =>
    rcases hk with rfl | hp
    · exact ⟨[], ⟨_, rfl, by rw [assembleT_pre_nil]; rfl, Or.inl assembleT_pre_nil⟩, by simp [wrapOpsOf, wrapScript, wrapText], fun _ => rfl⟩
    · have hne : p ≠ [] := by intro h0; subst h0; exact hp.reg.ne rfl
      exact ⟨_, hp.shows, by simp [wrapOpsOf, wrapScript, wrapText, hne, joinCS_pfx hp.reg.ne hct], fun _ => rfl⟩
  | withNewMessage m =>
    exact ⟨_, RegR.shows hk, by simp [wrapOpsOf, wrapScript, wrapText], fun h0 => absurd h0 hk.reg.ne⟩
  | opaqueWrapper p dd mt hid =>
    have hp : p = [] ∨ Reg p := by
      simp only [WrapKind.regular] at hk; split at hk
      · exact Or.inr hk
      · exact hk
    refine ⟨p, ?_, by simpa [wrapOpsOf, wrapScript, wrapText_opaque] using joinCS_opaque p mt hct, ?_⟩
    · rcases hp with rfl | hp
      · exact Shows.none
      · simpa [wrapOpsOf, wrapScript, hp.ne, SegT.content] using Shows.piece (.arg p) hp.ascii hp
    · rintro rfl
      by_cases hm : mt = mtFull
      · simp only [WrapKind.regular, hm, if_true] at hk; exact absurd rfl hk.ne
      · simp [wrapOpsOf, wrapScript, hm]
  | pathError op path =>
    obtain ⟨hr, ho, hpa⟩ := hk
    exact ⟨_, Shows.safe (segs := [.lit op, .lit sp, .arg path]) (by simp [SegT.clean, ho, hpa, sp_clean]) (by simp [SegT.content]) hr,
      by simpa [wrapOpsOf, wrapText] using joinCS_pfx hr.ne hct, fun _ => rfl⟩
  | linkError op old new =>
    obtain ⟨hr, ho, hol, hnw⟩ := hk
    exact ⟨_, Shows.safe (segs := [.lit op, .lit sp, .arg old, .lit sp, .arg new]) (by simp [SegT.clean, ho, hol, hnw, sp_clean]) (by simp [SegT.content]) hr,
      by simpa [wrapOpsOf, wrapText] using joinCS_pfx hr.ne hct, fun _ => rfl⟩
  | syscallError scn =>
    have hk : Reg scn := hk
    exact ⟨scn, Shows.piece (.lit scn) hk.ascii hk, by simpa [wrapOpsOf, wrapText] using joinCS_pfx hk.ne hct, fun _ => rfl⟩
  | pkgWithMessage _ | pkgWithStack _ | fmtWrapError _ | user _ _ => exact absurd rfl hs
  | _ => exact absurd rfl ha

/-! ### `%v` prints exactly Error() -/

/-- the errors over regular text: every string a layer prints in one-line mode begins and ends
    with a non-newline byte, has no two newlines in a row, is valid UTF-8 without marker runes (`Clean`), and stored redactable strings
    are well-formed; hidden parts and the branches of multi-cause nodes are unconstrained -/
def RegE : Err → Prop
  | .leaf _ k => k.regular
  | .barrier _ m _ => RegR m.smsg
  | .wrap _ k c => RegE c ∧ k.regular (errText c)
  | .second _ c _ => RegE c
  | .multi id k cs => Reg (errText (.multi id k cs))

/-- the statement proved by induction: the entries of the sub-tree, stripped and laid out on one
    line, are the Error() text, which is not empty -/
structure VText (e : Err) (E : List Entry) : Prop where
  stripOK : ∀ en ∈ E, en.StripOK
  line : shortText E = errText e
  ne : errText e ≠ []

theorem VText.strip {e : Err} {E : List Entry} (h : VText e E) (red : Bool) : stripT (singleLine red E) = errText e := by
  rw [stripT_singleLine red E h.stripOK, h.line]

/-- a layer showing `T` over the entries of what is below it, which show `inner` -/
theorem VText.layer {e : Err} {sub : List Entry} {en : Entry} {T inner : Str} (hsub : ∀ x ∈ sub, x.StripOK) (hl : shortText sub = inner)
    (hen : en.Shows T) (htxt : joinCS T inner = errText e) (hne : T = [] → inner ≠ []) : VText e (sub ++ [en]) := by
  refine ⟨List.forall_mem_append.2 ⟨hsub, List.forall_mem_singleton.2 hen.2⟩, by rw [shortText_snoc, hen.1, hl, htxt], ?_⟩
  rw [← htxt]; exact fun h0 => hne (joinCS_eq_nil.mp h0).1 (joinCS_eq_nil.mp h0).2

/-- the Error() of a wrapper through the engine's own definition equals the compositional one,
    once the cause's one-line rendering is its Error() text -/
theorem errText_wrap (id : Ident) (k : WrapKind) (c : Err)
    (hc : stripT (singleLine false (ents false false c true false 0 []).1) = errText c) :
    errText (.wrap id k c) = wrapText k (errText c) := by
  -- only `withPrefix` and the opaque wrapper print their cause through the engine
  have hv : (if libFormats c then stripT (singleLine false (ents false false c true false 0 []).1) else errText c) = errText c :=
    ite_ind (P := (· = errText c)) hc rfl
  cases k <;> simp only [errText, hv, wrapText]

theorem leafScript_shows {k : LeafKind} (hk : k.regular) {ops : List POp} (h : leafScript k false = some ops) :
    Shows ops (leafText k) := by
  cases k <;> simp [leafScript] at h <;> subst h
  · exact hk.2.shows                              -- leafError
  · exact Shows.piece (.arg _) hk.1.ascii hk.1    -- unimplemented
  · exact Shows.piece (.arg _) hk.1.ascii hk.1    -- opaque leaf

theorem ents_leaf_shows (id : Ident) (k : LeafKind) (hk : k.regular) (red o wd : Bool) (d : Nat) (ls : Stack) :
    ∃ en, (ents red false (.leaf id k) o wd d ls).1 = [en] ∧ en.Shows (leafText k) := by
  unfold ents
  simp only []
  -- the leaf clause of `ents`: a type with a script; pkg/errors' fundamental (two cases); a safe sentinel; an errno; the rest
  split
  · exact ⟨_, rfl, entry_shows (leafScript_shows hk ‹_›) ..⟩
  · split
    · split
      · exact ⟨_, rfl, entry_shows (Shows.plain hk.1) ..⟩
      · exact ⟨_, rfl, withStackOf_shows (entry_shows (Shows.plain hk.1) ..) ..⟩
    · split
      · exact ⟨_, rfl, entry_shows (Shows.piece (.lit _) hk.1.ascii hk.1) ..⟩
      · split
        · exact ⟨_, rfl, entry_shows (Shows.piece (.lit _) hk.1.ascii hk.1) ..⟩
        · exact ⟨_, rfl, entry_shows (Shows.plainOpt (Or.inr hk.1)) ..⟩

theorem VText.single {e : Err} {en : Entry} (hen : en.Shows (errText e)) (hne : errText e ≠ []) : VText e [en] :=
  VText.layer (sub := []) (inner := []) (fun _ hx => nomatch hx) rfl hen (joinCS_nil_right _) (fun h0 => absurd h0 hne)

theorem v_text : (e : Err) → RegE e → ∀ (red o wd : Bool) (d : Nat) (ls : Stack), VText e (ents red false e o wd d ls).1
  | .leaf id k, h, red, o, wd, d, ls => by
    obtain ⟨en, he, hen⟩ := ents_leaf_shows id k h red o wd d ls
    rw [he]
    exact VText.single hen h.1.ne
  | .barrier id m hd, h, red, o, wd, d, ls => by
    unfold ents
    have : barrierScript m [] false = [.safe [.pre m.smsg]] := by simp [barrierScript]
    simp only [Bool.false_eq_true, if_false, this]
    exact VText.single (entry_shows h.shows ..) h.reg.ne
  | .wrap id k c, ⟨hc, hk⟩, red, o, wd, d, ls => by
    have ihc := v_text c hc
    have ih := ihc red false wd (d + 1) ls
    obtain ⟨T, hsh, htxt, hvis⟩ := wrapOpsOf_shows k (errText c) ih.ne hk
    have hen := entry_shows hsh (wrapOpsOf k false (errText c)).2.2 red wd d (Err.wrap id k c).ty.tstr
    rw [← errText_wrap id k c ((ihc false true false 0 []).strip false)] at htxt
    unfold ents
    simp only []
    cases hel : (wrapOpsOf k false (errText c)).2.1
    · exact VText.layer ih.stripOK ih.line (withStackOf_shows hen _ _) (by simpa [hel] using htxt) (fun _ => ih.ne)
    · exact VText.layer (markElided_shortText _).2 (markElided_shortText _).1 (withStackOf_shows hen _ _) (by simpa [hel] using htxt)
        (fun h0 => by simp [hvis h0] at hel)
  | .second id c s, h, red, o, wd, d, ls => by
    have ih := v_text c h red false wd (d + 1) ls
    unfold ents
    simp only [Bool.false_eq_true, if_false]
    exact VText.layer ih.stripOK ih.line (entry_shows (by simpa [secondScript] using Shows.none) true red wd d _) (by simp [errText]) (fun _ => ih.ne)
  | .multi id k cs, h, red, o, wd, d, ls => by
    -- every branch entry is elided; the node's own entry carries the whole text
    have own : ∀ {sub : List Entry} {en : Entry}, en.Shows (errText (.multi id k cs)) → VText (.multi id k cs) (markElided sub ++ [en]) :=
      fun hen => VText.layer (markElided_shortText _).2 (markElided_shortText _).1 hen (by simp) (fun h0 => absurd h0 h.ne)
    have h' : Reg (errText (.multi id k cs)) := h
    unfold ents
    cases k with
    | join =>
      -- the entry of a Join is built from the same buffer as its Error() text
      have ht : ∀ S : LState, (collect S true red wd d (Err.multi id .join cs).ty.tstr).txt = stripT (collect S true true false 0 []).head := by
        intro S
        unfold collect Entry.txt
        cases red <;> by_cases hw : S.wantDetail = true <;> by_cases hd : S.hasDetail = true <;> simp [hw, hd, stripT_bytesT]
      exact own (Entry.shows_of_txt (by rw [ht, errText]) h'.ne h'.ascii)
    | opaqueLeafCauses msg dd hid =>
      simp only [leafScript, Bool.false_eq_true, if_false, List.append_nil, Option.getD_some]
      have hm : Reg msg := by simpa [errText, multiText] using h'
      exact own (entry_shows (Shows.piece (.arg msg) hm.ascii hm) ..)
    | stdJoin | fmtWrapErrors _ | user _ _ => exact own (entry_shows (Shows.plainOpt (Or.inr (by simpa [errText] using h'))) ..)

theorem errText_wrap_reg (id : Ident) (k : WrapKind) (c : Err) (h : RegE c) :
    errText (.wrap id k c) = wrapText k (errText c) :=
  errText_wrap id k c ((v_text c h false true false 0 []).strip false)

/-- the plain one-line rendering of any error: the bytes are the tokens stripped, there being no marker among them -/
theorem render_plain (e : Err) : render false false e = stripT (renderT false false e) :=
  unlex_noMarkers _ (singleLine_plain_NM _ (ents_NM e false true false 0 []))

theorem stripT_renderT_v (e : Err) (h : RegE e) (red : Bool) : stripT (renderT red false e) = errText e :=
  (v_text e h red true false 0 []).strip red

theorem render_v_eq_errText (e : Err) (h : RegE e) : render false false e = errText e := by
  rw [render_plain, stripT_renderT_v e h false]

end ErrModel
