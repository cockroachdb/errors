import ErrModel.Proofs.Classify
/- per-kind type marks and type names at a `Full` process -/
namespace ErrModel

theorem typeMark_of_family {P : Proc} {e : Err} {t : Str} (ho : e.opaqueDet = none) (ht : e.ty.full = t)
    (hf : P.family t = t) : typeMark P e = ⟨t, e.keyMarker⟩ := by
  unfold typeMark; rw [ho, ht, hf]

/-- at `Full` the one migrated name is io/fs.PathError -/
theorem typeMark_Full_of {e : Err} {t : Str} (ho : e.opaqueDet = none) (ht : e.ty.full = t)
    (hn : t ≠ b!"io/fs/*fs.PathError") : typeMark Full e = ⟨t, e.keyMarker⟩ :=
  typeMark_of_family ho ht (family_base_of_ne rfl hn)

@[simp] theorem tm_leafError (id : Ident) (m : RStr)  :
    typeMark Full (.leaf id (.leafError m)) = ⟨(LeafKind.leafError []).ty.full, []⟩ :=
  typeMark_Full_of rfl rfl (by decide)
@[simp] theorem otn_leafError (id : Ident) (m : RStr)  :
    origTypeName (.leaf id (.leafError m)) = (LeafKind.leafError []).ty.full := rfl

@[simp] theorem tm_errorString (id : Ident) (m : Str)  :
    typeMark Full (.leaf id (.errorString m)) = ⟨(LeafKind.errorString []).ty.full, []⟩ :=
  typeMark_Full_of rfl rfl (by decide)
@[simp] theorem otn_errorString (id : Ident) (m : Str)  :
    origTypeName (.leaf id (.errorString m)) = (LeafKind.errorString []).ty.full := rfl

@[simp] theorem tm_deadline (id : Ident)   :
    typeMark Full (.leaf id .deadline) = ⟨LeafKind.deadline.ty.full, []⟩ :=
  typeMark_Full_of rfl rfl (by decide)
@[simp] theorem otn_deadline (id : Ident)   :
    origTypeName (.leaf id .deadline) = LeafKind.deadline.ty.full := rfl

@[simp] theorem tm_errno (id : Ident) (n : Nat) (m : Str) (a b c d e : Bool)  :
    typeMark Full (.leaf id (.errno n m a b c d e)) = ⟨(LeafKind.errno 0 [] false false false false false).ty.full, []⟩ :=
  typeMark_Full_of rfl rfl (by decide)
@[simp] theorem otn_errno (id : Ident) (n : Nat) (m : Str) (a b c d e : Bool)  :
    origTypeName (.leaf id (.errno n m a b c d e)) = (LeafKind.errno 0 [] false false false false false).ty.full := rfl

@[simp] theorem tm_opaqueErrno (id : Ident) (m : Str) (n : Nat) (ar : Str) (a b c d e : Bool)  :
    typeMark Full (.leaf id (.opaqueErrno m n ar a b c d e)) = ⟨(LeafKind.opaqueErrno [] 0 [] false false false false false).ty.full, []⟩ :=
  typeMark_Full_of rfl rfl (by decide)
@[simp] theorem otn_opaqueErrno (id : Ident) (m : Str) (n : Nat) (ar : Str) (a b c d e : Bool)  :
    origTypeName (.leaf id (.opaqueErrno m n ar a b c d e)) = (LeafKind.opaqueErrno [] 0 [] false false false false false).ty.full := rfl

@[simp] theorem tm_pkgFundamental (id : Ident) (m : Str) (st : Stack)  :
    typeMark Full (.leaf id (.pkgFundamental m st)) = ⟨(LeafKind.pkgFundamental [] []).ty.full, []⟩ :=
  typeMark_Full_of rfl rfl (by decide)
@[simp] theorem otn_pkgFundamental (id : Ident) (m : Str) (st : Stack)  :
    origTypeName (.leaf id (.pkgFundamental m st)) = (LeafKind.pkgFundamental [] []).ty.full := rfl

@[simp] theorem tm_unimplemented (id : Ident) (m u dt : Str)  :
    typeMark Full (.leaf id (.unimplemented m u dt)) = ⟨(LeafKind.unimplemented [] [] []).ty.full, []⟩ :=
  typeMark_Full_of rfl rfl (by decide)
@[simp] theorem otn_unimplemented (id : Ident) (m u dt : Str)  :
    origTypeName (.leaf id (.unimplemented m u dt)) = (LeafKind.unimplemented [] [] []).ty.full := rfl

@[simp] theorem tm_testErr (id : Ident)   :
    typeMark Full (.leaf id .testErr) = ⟨LeafKind.testErr.ty.full, []⟩ :=
  typeMark_Full_of rfl rfl (by decide)
@[simp] theorem otn_testErr (id : Ident)   :
    origTypeName (.leaf id .testErr) = LeafKind.testErr.ty.full := rfl

@[simp] theorem tm_grpcStatus (id : Ident) (cd : Nat) (m : Str) (nd : Nat)  :
    typeMark Full (.leaf id (.grpcStatus cd m nd)) = ⟨(LeafKind.grpcStatus 0 [] 0).ty.full, []⟩ :=
  typeMark_Full_of rfl rfl (by decide)
@[simp] theorem otn_grpcStatus (id : Ident) (cd : Nat) (m : Str) (nd : Nat)  :
    origTypeName (.leaf id (.grpcStatus cd m nd)) = (LeafKind.grpcStatus 0 [] 0).ty.full := rfl

@[simp] theorem tm_gogoStatus (id : Ident) (cd : Nat) (m : Str) (nd : Nat)  :
    typeMark Full (.leaf id (.gogoStatus cd m nd)) = ⟨(LeafKind.gogoStatus 0 [] 0).ty.full, []⟩ :=
  typeMark_Full_of rfl rfl (by decide)
@[simp] theorem otn_gogoStatus (id : Ident) (cd : Nat) (m : Str) (nd : Nat)  :
    origTypeName (.leaf id (.gogoStatus cd m nd)) = (LeafKind.gogoStatus 0 [] 0).ty.full := rfl

@[simp] theorem tm_withPrefix (id : Ident) (p : RStr) (cz : Err) :
    typeMark Full (.wrap id (.withPrefix p) cz) = ⟨(WrapKind.withPrefix []).ty.full, []⟩ :=
  typeMark_Full_of rfl rfl (by decide)
@[simp] theorem otn_withPrefix (id : Ident) (p : RStr) (cz : Err) :
    origTypeName (.wrap id (.withPrefix p) cz) = (WrapKind.withPrefix []).ty.full := rfl

@[simp] theorem tm_withNewMessage (id : Ident) (p : RStr) (cz : Err) :
    typeMark Full (.wrap id (.withNewMessage p) cz) = ⟨(WrapKind.withNewMessage []).ty.full, []⟩ :=
  typeMark_Full_of rfl rfl (by decide)
@[simp] theorem otn_withNewMessage (id : Ident) (p : RStr) (cz : Err) :
    origTypeName (.wrap id (.withNewMessage p) cz) = (WrapKind.withNewMessage []).ty.full := rfl

@[simp] theorem tm_withStack (id : Ident) (st : Stack) (cz : Err) :
    typeMark Full (.wrap id (.withStack st) cz) = ⟨(WrapKind.withStack []).ty.full, []⟩ :=
  typeMark_Full_of rfl rfl (by decide)
@[simp] theorem otn_withStack (id : Ident) (st : Stack) (cz : Err) :
    origTypeName (.wrap id (.withStack st) cz) = (WrapKind.withStack []).ty.full := rfl

@[simp] theorem tm_withHint (id : Ident) (h : Str) (cz : Err) :
    typeMark Full (.wrap id (.withHint h) cz) = ⟨(WrapKind.withHint []).ty.full, []⟩ :=
  typeMark_Full_of rfl rfl (by decide)
@[simp] theorem otn_withHint (id : Ident) (h : Str) (cz : Err) :
    origTypeName (.wrap id (.withHint h) cz) = (WrapKind.withHint []).ty.full := rfl

@[simp] theorem tm_withDetail (id : Ident) (h : Str) (cz : Err) :
    typeMark Full (.wrap id (.withDetail h) cz) = ⟨(WrapKind.withDetail []).ty.full, []⟩ :=
  typeMark_Full_of rfl rfl (by decide)
@[simp] theorem otn_withDetail (id : Ident) (h : Str) (cz : Err) :
    origTypeName (.wrap id (.withDetail h) cz) = (WrapKind.withDetail []).ty.full := rfl

@[simp] theorem tm_withIssueLink (id : Ident) (u dt : Str) (cz : Err) :
    typeMark Full (.wrap id (.withIssueLink u dt) cz) = ⟨(WrapKind.withIssueLink [] []).ty.full, []⟩ :=
  typeMark_Full_of rfl rfl (by decide)
@[simp] theorem otn_withIssueLink (id : Ident) (u dt : Str) (cz : Err) :
    origTypeName (.wrap id (.withIssueLink u dt) cz) = (WrapKind.withIssueLink [] []).ty.full := rfl

@[simp] theorem tm_withTelemetry (id : Ident) (ks : List Str) (cz : Err) :
    typeMark Full (.wrap id (.withTelemetry ks) cz) = ⟨(WrapKind.withTelemetry []).ty.full, []⟩ :=
  typeMark_Full_of rfl rfl (by decide)
@[simp] theorem otn_withTelemetry (id : Ident) (ks : List Str) (cz : Err) :
    origTypeName (.wrap id (.withTelemetry ks) cz) = (WrapKind.withTelemetry []).ty.full := rfl

@[simp] theorem tm_withContext (id : Ident) (tg : List (Str × Str)) (kd : List Nat) (rd : Option (List Str)) (cz : Err) :
    typeMark Full (.wrap id (.withContext tg kd rd) cz) = ⟨(WrapKind.withContext [] [] none).ty.full, []⟩ :=
  typeMark_Full_of rfl rfl (by decide)
@[simp] theorem otn_withContext (id : Ident) (tg : List (Str × Str)) (kd : List Nat) (rd : Option (List Str)) (cz : Err) :
    origTypeName (.wrap id (.withContext tg kd rd) cz) = (WrapKind.withContext [] [] none).ty.full := rfl

@[simp] theorem tm_withAssertionFailure (id : Ident)  (cz : Err) :
    typeMark Full (.wrap id .withAssertionFailure cz) = ⟨WrapKind.withAssertionFailure.ty.full, []⟩ :=
  typeMark_Full_of rfl rfl (by decide)
@[simp] theorem otn_withAssertionFailure (id : Ident)  (cz : Err) :
    origTypeName (.wrap id .withAssertionFailure cz) = WrapKind.withAssertionFailure.ty.full := rfl

@[simp] theorem tm_withSafeDetails (id : Ident) (l : List Str) (cz : Err) :
    typeMark Full (.wrap id (.withSafeDetails l) cz) = ⟨(WrapKind.withSafeDetails []).ty.full, []⟩ :=
  typeMark_Full_of rfl rfl (by decide)
@[simp] theorem otn_withSafeDetails (id : Ident) (l : List Str) (cz : Err) :
    origTypeName (.wrap id (.withSafeDetails l) cz) = (WrapKind.withSafeDetails []).ty.full := rfl

@[simp] theorem tm_withMark (id : Ident) (m : Str) (t : List TMark) (cz : Err) :
    typeMark Full (.wrap id (.withMark m t) cz) = ⟨(WrapKind.withMark [] []).ty.full, []⟩ :=
  typeMark_Full_of rfl rfl (by decide)
@[simp] theorem otn_withMark (id : Ident) (m : Str) (t : List TMark) (cz : Err) :
    origTypeName (.wrap id (.withMark m t) cz) = (WrapKind.withMark [] []).ty.full := rfl

@[simp] theorem tm_withHTTPCode (id : Ident) (n : Nat) (cz : Err) :
    typeMark Full (.wrap id (.withHTTPCode n) cz) = ⟨(WrapKind.withHTTPCode 0).ty.full, []⟩ :=
  typeMark_Full_of rfl rfl (by decide)
@[simp] theorem otn_withHTTPCode (id : Ident) (n : Nat) (cz : Err) :
    origTypeName (.wrap id (.withHTTPCode n) cz) = (WrapKind.withHTTPCode 0).ty.full := rfl

@[simp] theorem tm_withGrpcCode (id : Ident) (n : Nat) (cz : Err) :
    typeMark Full (.wrap id (.withGrpcCode n) cz) = ⟨(WrapKind.withGrpcCode 0).ty.full, []⟩ :=
  typeMark_Full_of rfl rfl (by decide)
@[simp] theorem otn_withGrpcCode (id : Ident) (n : Nat) (cz : Err) :
    origTypeName (.wrap id (.withGrpcCode n) cz) = (WrapKind.withGrpcCode 0).ty.full := rfl

@[simp] theorem tm_pkgWithMessage (id : Ident) (m : Str) (cz : Err) :
    typeMark Full (.wrap id (.pkgWithMessage m) cz) = ⟨(WrapKind.pkgWithMessage []).ty.full, []⟩ :=
  typeMark_Full_of rfl rfl (by decide)
@[simp] theorem otn_pkgWithMessage (id : Ident) (m : Str) (cz : Err) :
    origTypeName (.wrap id (.pkgWithMessage m) cz) = (WrapKind.pkgWithMessage []).ty.full := rfl

@[simp] theorem tm_pkgWithStack (id : Ident) (st : Stack) (cz : Err) :
    typeMark Full (.wrap id (.pkgWithStack st) cz) = ⟨(WrapKind.pkgWithStack []).ty.full, []⟩ :=
  typeMark_Full_of rfl rfl (by decide)
@[simp] theorem otn_pkgWithStack (id : Ident) (st : Stack) (cz : Err) :
    origTypeName (.wrap id (.pkgWithStack st) cz) = (WrapKind.pkgWithStack []).ty.full := rfl

@[simp] theorem tm_linkError (id : Ident) (a b c : Str) (cz : Err) :
    typeMark Full (.wrap id (.linkError a b c) cz) = ⟨(WrapKind.linkError [] [] []).ty.full, []⟩ :=
  typeMark_Full_of rfl rfl (by decide)
@[simp] theorem otn_linkError (id : Ident) (a b c : Str) (cz : Err) :
    origTypeName (.wrap id (.linkError a b c) cz) = (WrapKind.linkError [] [] []).ty.full := rfl

@[simp] theorem tm_syscallError (id : Ident) (s : Str) (cz : Err) :
    typeMark Full (.wrap id (.syscallError s) cz) = ⟨(WrapKind.syscallError []).ty.full, []⟩ :=
  typeMark_Full_of rfl rfl (by decide)
@[simp] theorem otn_syscallError (id : Ident) (s : Str) (cz : Err) :
    origTypeName (.wrap id (.syscallError s) cz) = (WrapKind.syscallError []).ty.full := rfl

@[simp] theorem tm_fmtWrapError (id : Ident) (m : Str) (cz : Err) :
    typeMark Full (.wrap id (.fmtWrapError m) cz) = ⟨(WrapKind.fmtWrapError []).ty.full, []⟩ :=
  typeMark_Full_of rfl rfl (by decide)
@[simp] theorem otn_fmtWrapError (id : Ident) (m : Str) (cz : Err) :
    origTypeName (.wrap id (.fmtWrapError m) cz) = (WrapKind.fmtWrapError []).ty.full := rfl

@[simp] theorem tm_join (id : Ident)  (cs : List Err) :
    typeMark Full (.multi id .join cs) = ⟨MultiKind.join.ty.full, []⟩ :=
  typeMark_Full_of rfl rfl (by decide)
@[simp] theorem otn_join (id : Ident)  (cs : List Err) :
    origTypeName (.multi id .join cs) = MultiKind.join.ty.full := rfl

@[simp] theorem tm_stdJoin (id : Ident)  (cs : List Err) :
    typeMark Full (.multi id .stdJoin cs) = ⟨MultiKind.stdJoin.ty.full, []⟩ :=
  typeMark_Full_of rfl rfl (by decide)
@[simp] theorem otn_stdJoin (id : Ident)  (cs : List Err) :
    origTypeName (.multi id .stdJoin cs) = MultiKind.stdJoin.ty.full := rfl

@[simp] theorem tm_fmtWrapErrors (id : Ident) (m : Str) (cs : List Err) :
    typeMark Full (.multi id (.fmtWrapErrors m) cs) = ⟨(MultiKind.fmtWrapErrors []).ty.full, []⟩ :=
  typeMark_Full_of rfl rfl (by decide)
@[simp] theorem otn_fmtWrapErrors (id : Ident) (m : Str) (cs : List Err) :
    origTypeName (.multi id (.fmtWrapErrors m) cs) = (MultiKind.fmtWrapErrors []).ty.full := rfl

@[simp] theorem tm_pathError (id : Ident) (a b : Str) (cz : Err) :
    typeMark Full (.wrap id (.pathError a b) cz) = ⟨k_pathError, []⟩ :=
  congrArg (TMark.mk · []) (family_base_pathError rfl)
@[simp] theorem otn_pathError (id : Ident) (a b : Str) (cz : Err) :
    origTypeName (.wrap id (.pathError a b) cz) = (WrapKind.pathError [] []).ty.full := rfl

@[simp] theorem tm_withDomain (id : Ident) (d : Str) (cz : Err) :
    typeMark Full (.wrap id (.withDomain d) cz) = ⟨k_withDomain, d⟩ :=
  typeMark_Full_of rfl rfl (by decide)
@[simp] theorem otn_withDomain (id : Ident) (d : Str) (cz : Err) :
    origTypeName (.wrap id (.withDomain d) cz) = k_withDomain := rfl

@[simp] theorem tm_barrier (id : Ident) (m : BarrierMsg) (h : Err) :
    typeMark Full (.barrier id m h) = ⟨k_barrier, []⟩ :=
  typeMark_Full_of rfl rfl (by decide)
@[simp] theorem otn_barrier (id : Ident) (m : BarrierMsg) (h : Err) :
    origTypeName (.barrier id m h) = k_barrier := rfl

@[simp] theorem tm_secondary (id : Ident) (c s : Err) :
    typeMark Full (.second id c s) = ⟨k_withSecondary, []⟩ :=
  typeMark_Full_of rfl rfl (by decide)
@[simp] theorem otn_secondary (id : Ident) (c s : Err) :
    origTypeName (.second id c s) = k_withSecondary := rfl

@[simp] theorem tm_opaqueLeaf (P : Proc) (id : Ident) (m : Str) (d : Det) (hid : List Enc) :
    typeMark P (.leaf id (.opaqueLeaf m d hid)) = d.mark := rfl
@[simp] theorem otn_opaqueLeaf (id : Ident) (m : Str) (d : Det) (hid : List Enc) :
    origTypeName (.leaf id (.opaqueLeaf m d hid)) = d.origType := rfl
@[simp] theorem tm_opaqueWrapper (P : Proc) (id : Ident) (m : Str) (d : Det) (mt : Nat) (hid : List Enc) (c : Err) :
    typeMark P (.wrap id (.opaqueWrapper m d mt hid) c) = d.mark := rfl
@[simp] theorem otn_opaqueWrapper (id : Ident) (m : Str) (d : Det) (mt : Nat) (hid : List Enc) (c : Err) :
    origTypeName (.wrap id (.opaqueWrapper m d mt hid) c) = d.origType := rfl
@[simp] theorem tm_opaqueLeafCauses (P : Proc) (id : Ident) (m : Str) (d : Det) (hid : List Enc) (cs : List Err) :
    typeMark P (.multi id (.opaqueLeafCauses m d hid) cs) = d.mark := rfl
@[simp] theorem otn_opaqueLeafCauses (id : Ident) (m : Str) (d : Det) (hid : List Enc) (cs : List Err) :
    origTypeName (.multi id (.opaqueLeafCauses m d hid) cs) = d.origType := rfl
@[simp] theorem otn_user_leaf (id : Ident) (u : UserTy) (m : Str) : origTypeName (.leaf id (.user u m)) = u.name := rfl
@[simp] theorem otn_user_wrap (id : Ident) (u : UserTy) (m : Str) (c : Err) : origTypeName (.wrap id (.user u m) c) = u.name := rfl
@[simp] theorem otn_user_multi (id : Ident) (u : UserTy) (m : Str) (cs : List Err) : origTypeName (.multi id (.user u m) cs) = u.name := rfl

end ErrModel
