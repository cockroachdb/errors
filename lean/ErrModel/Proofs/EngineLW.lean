import ErrModel.Proofs.LW
import ErrModel.Proofs.EngineBasic
/-
  What the formatting engine preserves, from the write machine through the collected entries to the
  final layouts: well-formedness of redactable token strings (markers balanced, not nested, balanced
  within every line) and, in plain mode, the absence of marker tokens.  The write machine, entry collection
  and the one-line layout are proved once, for any property of token strings with the closures the engine
  relies on (`TokClosed`); the verbose layout for well-formedness only.
-/
namespace ErrModel

def AllBytes (t : Toks) : Prop := ∀ x ∈ t, ∃ c, x = Tok.b c

theorem allBytes_bytesT (s : Str) : AllBytes (bytesT s) := by
  intro x hx; simp [bytesT] at hx; obtain ⟨c, _, rfl⟩ := hx; exact ⟨c, rfl⟩

theorem allBytes_append {a b : Toks} (ha : AllBytes a) (hb : AllBytes b) : AllBytes (a ++ b) := by
  intro x hx; rcases List.mem_append.mp hx with h | h; exact ha x h; exact hb x h

/-- a property of token strings that plain bytes have, that concatenation keeps, and that a string has line by
    line.  The engine only moves the strings it is given, cut at newlines, and puts plain bytes between them, so
    each of its stages preserves every such property: well-formedness (`tokClosed_LW`) and, for the plain
    rendering, the absence of marker tokens (`tokClosed_NoMarkers`). -/
structure TokClosed (P : Toks → Prop) : Prop where
  bytes : ∀ s, P (bytesT s)
  append : ∀ {a b}, P a → P b → P (a ++ b)
  lines : ∀ {a b}, P (a ++ nlT :: b) → P a ∧ P b

theorem TokClosed.flatMap {P : Toks → Prop} (hP : TokClosed P) {α : Type} (f : α → Toks) {l : List α}
    (h : ∀ x ∈ l, P (f x)) : P (l.flatMap f) := by
  induction l with
  | nil => exact hP.bytes []
  | cons x r ih => exact hP.append (h x (by simp)) (ih fun y hy => h y (by simp [hy]))

/-- a newline is only legal outside markers: a well-formed string is well-formed line by line -/
theorem tokClosed_LW : TokClosed LW := by
  refine ⟨LW_bytes, LW_append, fun {a b} h => ?_⟩
  unfold LW at *
  rw [lw_append] at h
  cases ha : lw false a with
  | none => simp [ha] at h
  | some st => cases st <;> simp_all [lw, nlT]

def NoMarkers (t : Toks) : Prop := ∀ x ∈ t, x ≠ Tok.op ∧ x ≠ Tok.cl

theorem NoMarkers_bytesU (s : Str) : NoMarkers (bytesU s) := by
  intro x hx; simp [bytesU] at hx; obtain ⟨c, _, rfl⟩ := hx; split <;> simp

theorem tokClosed_NoMarkers : TokClosed NoMarkers :=
  ⟨fun s x hx => by simp [bytesT] at hx; obtain ⟨c, _, rfl⟩ := hx; simp,
   fun ha hb x hx => (List.mem_append.mp hx).elim (ha x) (hb x),
   fun h => ⟨fun x hx => h x (by simp [hx]), fun x hx => h x (by simp [hx])⟩⟩

def LState.All (P : Toks → Prop) (s : LState) : Prop := P s.buf ∧ P s.headBuf

theorem LState.All.switchOver {P : Toks → Prop} (hP : TokClosed P) {s : LState} (h : s.All P) : s.switchOver.All P :=
  ite_ind h ⟨hP.bytes [], h.1⟩

/-- the write machine flushes the text line by line and adds only plain bytes (newlines, padding, a space) of its own -/
theorem writeLoop_closed {P : Toks → Prop} (hP : TokClosed P) (rest : Toks) (s : LState) (chunk : Toks)
    (hs : s.All P) (hc : P (chunk ++ rest)) : (writeLoop s chunk rest).All P := by
  fun_induction writeLoop s chunk rest with
  | case1 s chunk => exact ⟨hP.append hs.1 (by simpa using hc), hs.2⟩   -- the end of the text
  | case2 s chunk r s1 s2 ih =>                                        -- a newline
    obtain ⟨h1, h2⟩ := hP.lines hc
    have hs1 : s1.All P := ⟨hP.append hs.1 h1, hs.2⟩
    exact ih (ite_ind (hs1.switchOver hP) hs1) h2
  | case3 s chunk c r _ sep pad s1 ih =>                               -- any other token
    have hsep : P sep := ite_ind (hP.bytes _) (hP.bytes [nl])
    have hpad : P (List.replicate (s.needNewline - 1) pad).flatten := by
      rw [← List.flatMap_id]
      exact hP.flatMap _ fun t ht => (List.mem_replicate.mp ht).2 ▸ ite_ind (hP.bytes _) (hP.bytes [])
    have hs1 : s1.All P := ite_ind ⟨hP.append (hP.append hs.1 hpad) hsep, hs.2⟩ (ite_ind ⟨hP.append hs.1 (hP.bytes [32]), hs.2⟩ hs)
    exact ih hs1 (by simpa using hc)

theorem LState.All.write {P : Toks → Prop} (hP : TokClosed P) {s : LState} (h : s.All P) {b : Toks} (hb : P b) :
    (s.write b).All P :=
  ite_ind h (writeLoop_closed hP b s [] h hb)

theorem LState.All.detail {P : Toks → Prop} (hP : TokClosed P) {s : LState} (h : s.All P) : s.detail.All P :=
  LState.All.switchOver hP (ite_ind (P := LState.All P) ⟨h.1, h.2⟩ h)

theorem runOps_closed {P : Toks → Prop} (hP : TokClosed P) (detail : Bool) (ops : List POp)
    (hs : ∀ segs, .safe segs ∈ ops → P (assembleT segs)) (hp : ∀ b, .plain b ∈ ops → P (bytesU b)) :
    (runOps detail ops).All P :=
  ops.foldlRecOn runOp ⟨hP.bytes [], hP.bytes []⟩ fun s h op hop => by
    cases op with
    | safe segs => exact h.write hP (hs segs hop)
    | plain b => exact h.write hP (hp b hop)
    | detail => exact h.detail hP

/-- `s.All LW`, as `writeLoop_inv` states it -/
structure LState.Inv (s : LState) : Prop where
  buf : lw false s.buf = some false
  head : lw false s.headBuf = some false

theorem writeLoop_inv : (rest : Toks) → (s : LState) → (chunk : Toks) → (st : Bool) →
    s.Inv → lw false chunk = some st → lw st rest = some false → (writeLoop s chunk rest).Inv :=
  fun rest s chunk st hs hc hr =>
    have h := writeLoop_closed tokClosed_LW rest s chunk ⟨hs.buf, hs.head⟩ (by rw [LW, lw_append, hc]; exact hr)
    ⟨h.1, h.2⟩

/-- the operations of a layer's formatting method: the redactable pieces they pass to the
    safe printer must be well-formed -/
def POp.ok : POp → Prop
  | .safe segs => ∀ g ∈ segs, g.ok
  | .plain _ => False     -- a plain write puts unsafe text outside markers: not in a redactable buffer
  | .detail => True

@[simp] theorem POp.ok_safe (segs : List SegT) : (POp.safe segs).ok ↔ ∀ g ∈ segs, g.ok := Iff.rfl
@[simp] theorem POp.ok_plain (s : Str) : (POp.plain s).ok ↔ False := Iff.rfl
@[simp] theorem POp.ok_detail : POp.detail.ok ↔ True := Iff.rfl

/-- an entry flagged redactable holds well-formed redactable strings (a non-redactable one holds
    raw unsafe text, which is escaped and enclosed when it is printed) -/
structure Entry.Inv (en : Entry) : Prop where
  head : en.redactable = true → LW en.head
  details : en.redactable = true → LW en.details

theorem collect_redactable (s : LState) (b r wd : Bool) (d : Nat) (t : Str) :
    (collect s b r wd d t).redactable = (b && r) := by
  cases b <;> cases r <;> rfl

/-- `collectEntry` hands the two buffers on, joined by a newline, or stripped to plain bytes -/
theorem collect_closed {P : Toks → Prop} (hP : TokClosed P) {s : LState} (h : s.All P) (b r wd : Bool) (d : Nat) (t : Str) :
    P (collect s b r wd d t).head ∧ P (collect s b r wd d t).details := by
  -- `hd` in `collect`, branch by branch: details wanted and begun; wanted, not begun; not wanted (the two buffers on one line)
  have raw : P (collect s false r wd d t).head ∧ P (collect s false r wd d t).details :=
    ite_ind (P := fun x : Toks × Toks => P x.1 ∧ P x.2) (ite_ind (P := fun x : Toks × Toks => P x.1 ∧ P x.2) ⟨h.2, h.1⟩ ⟨h.1, hP.bytes []⟩)
      ⟨hP.append (ite_ind (hP.append h.2 (hP.bytes [nl])) h.2) h.1, hP.bytes []⟩
  cases b
  · exact raw
  · cases r
    · exact ⟨hP.bytes _, hP.bytes _⟩
    · exact raw

def slStep (red : Bool) (acc : Toks) (en : Entry) : Toks :=
  if en.elideShort then acc
  else
    let acc1 := if acc ≠ [] && en.head ≠ [] then acc ++ colonSpT else acc
    if en.head = [] then acc1 else acc1 ++ escIfNeeded red en en.head

theorem slStep_closed {P : Toks → Prop} (hP : TokClosed P) (red : Bool) {acc : Toks} {en : Entry} (ha : P acc)
    (he : P (escIfNeeded red en en.head)) : P (slStep red acc en) :=
  have h1 : P (if acc ≠ [] && en.head ≠ [] then acc ++ colonSpT else acc) := ite_ind (hP.append ha (hP.bytes _)) ha
  ite_ind ha (ite_ind h1 (hP.append h1 he))

/-- the one-line layout only concatenates the heads and `: ` -/
theorem singleLine_closed {P : Toks → Prop} (hP : TokClosed P) (red : Bool) (ents : List Entry)
    (h : ∀ en ∈ ents, P (escIfNeeded red en en.head)) : P (singleLine red ents) :=
  ents.reverse.foldlRecOn (slStep red) (hP.bytes []) fun _ ha en hen => slStep_closed hP red ha (h en (List.mem_reverse.mp hen))

theorem escIfNeeded_LW (en : Entry) (s : Toks) (hs : en.redactable = true → LW s) : LW (escIfNeeded true en s) := by
  unfold escIfNeeded
  by_cases hr : en.redactable = true
  · simp [hr]; exact hs hr
  · simp [hr]; exact LW_escapeBytesT _

theorem singleLine_LW (ents : List Entry) (h : ∀ en ∈ ents, en.Inv) : LW (singleLine true ents) :=
  singleLine_closed tokClosed_LW true ents (fun en hen => escIfNeeded_LW en _ (h en hen).head)

theorem stackLines_closed {P : Toks → Prop} (hP : TokClosed P) (st : Stack) : P (stackLines st) :=
  hP.flatMap _ fun _ _ => hP.append (hP.bytes _) (hP.flatMap _ fun c _ => ite_ind (hP.bytes _) (hP.bytes [c]))

theorem printEntry_LW (en : Entry) (h : en.Inv) : LW (printEntry true en) :=
  LW_append
    (LW_append
      (ite_ind (LW_append (ite_ind (LW_bytes [32]) LW_nil) (escIfNeeded_LW en _ h.head)) LW_nil)
      (ite_ind (LW_append (ite_ind (LW_bytes [32]) LW_nil) (escIfNeeded_LW en _ h.details)) LW_nil))
    (by
      split
      · exact LW_append (LW_append (LW_bytes _) (stackLines_closed tokClosed_LW _))
          (ite_ind (LW_append (LW_bytes _) (LW_bytes _)) LW_nil)
      · exact LW_nil)

theorem fullOutput_LW (ents : List Entry) (h : ∀ en ∈ ents, en.Inv) : LW (fullOutput true ents) := by
  unfold fullOutput
  split
  · exact LW_nil
  · rename_i top rest hr
    have hall : ∀ en ∈ top :: rest, en.Inv := fun en hen => h en (by simpa using (hr ▸ hen : en ∈ ents.reverse))
    refine LW_append (LW_append (LW_append (LW_append (singleLine_LW ents h) (LW_bytes _))
      (printEntry_LW top (hall top (by simp)))) ?_) (LW_bytes _)
    exact tokClosed_LW.flatMap _ fun x hx =>
      LW_append (LW_bytes _) (printEntry_LW x.1 (hall x.1 (List.mem_cons_of_mem _ (List.fst_mem_of_mem_zipIdx hx))))

theorem finish_LW (detail : Bool) (ents : List Entry) (h : ∀ en ∈ ents, en.Inv) : LW (finish true detail ents) :=
  ite_ind (fullOutput_LW ents h) (singleLine_LW ents h)

/-- the redactable strings a layer stores (built by `redact.Sprintf` at construction, or
    received from the wire) -/
def WrapKind.wfStored : WrapKind → Prop
  | .withPrefix p => LW (lexL p)
  | .withNewMessage m => LW (lexL m)
  | _ => True

def LeafKind.wfStored : LeafKind → Prop
  | .leafError msg => LW (lexL msg)
  | _ => True

mutual
/-- every redactable string stored anywhere in the error (hidden parts included) is well-formed -/
def WFE : Err → Prop
  | .leaf _ k => k.wfStored
  | .barrier _ m h => LW (lexL m.smsg) ∧ WFE h
  | .wrap _ k c => k.wfStored ∧ WFE c
  | .second _ c s => WFE c ∧ WFE s
  | .multi _ _ cs => WFEL cs
def WFEL : List Err → Prop
  | [] => True
  | e :: r => WFE e ∧ WFEL r
end

/-! ### the scripts and their buffers

  A script is a list built with `++`, `if`, `map` and `flatMap`: the lemmas `forall_mem_*` take
  `∀ op ∈ script, ..` apart along that structure, down to the pieces. -/

/-- the operation agrees with what its buffer is declared to be (`b`: redactable): a redactable buffer receives
    well-formed safe-printer calls and no plain write, provided the stored strings are well-formed (`wf`);
    one that is not receives no safe-printer call -/
def POp.fits (wf : Prop) : Bool → POp → Prop
  | true, op => wf → op.ok
  | false, .safe _ => False
  | false, _ => True

@[simp] theorem POp.fits_true (wf : Prop) (op : POp) : op.fits wf true ↔ (wf → op.ok) := Iff.rfl
@[simp] theorem POp.fits_safe (wf : Prop) (segs : List SegT) : (POp.safe segs).fits wf false ↔ False := Iff.rfl
@[simp] theorem POp.fits_plain (wf : Prop) (s : Str) : (POp.plain s).fits wf false ↔ True := Iff.rfl
@[simp] theorem POp.fits_detail (wf : Prop) (b : Bool) : POp.detail.fits wf b ↔ True := by cases b <;> simp [POp.fits]

theorem ok_lits (segs : List SegT) (h : ∀ g ∈ segs, (∃ s, g = .lit s) ∨ (∃ s, g = .arg s)) : POp.ok (.safe segs) := by
  intro g hg
  rcases h g hg with ⟨s, rfl⟩ | ⟨s, rfl⟩ <;> trivial

theorem tagToks_LW (kv : Str × Str) (kind : Nat) : LW (tagToks kv kind) :=
  ite_ind (LW_assembleT _ (by simp)) (ite_ind (LW_assembleT _ (by simp)) (LW_assembleT _ (by simp)))

theorem opaqueDetailOps_ok (what : Str) (d : Det) (hid : List Enc) : ∀ op ∈ opaqueDetailOps what d hid, op.ok := by
  simp only [opaqueDetailOps, List.forall_mem_append, List.forall_mem_cons, List.forall_mem_map]
  refine ⟨⟨by simp, by simp⟩, ?_⟩
  cases payUrl d hid <;> simp

/-- what a wrapper layer prints (its own method, a special case, or formatSimple) agrees with its buffer: of the
    library types only the hint and detail wrappers write plainly; formatSimple does, for the foreign types -/
theorem wrapOpsOf_fits (k : WrapKind) (detail : Bool) (ct : Str) :
    ∀ op ∈ (wrapOpsOf k detail ct).1, op.fits k.wfStored (wrapOpsOf k detail ct).2.2 := by
  cases k <;> dsimp only [wrapOpsOf, wrapScript, simpleWrapOps, WrapKind.wfStored] <;>
    simp only [forall_mem_ite, List.forall_mem_append, List.forall_mem_cons, List.forall_mem_map, List.forall_mem_flatMap] <;>
    simp [lit', tagToks_LW]
  -- left: the detail block of the opaque wrapper
  exact fun _ => opaqueDetailOps_ok _ _ _

theorem leafScript_ok (k : LeafKind) (detail : Bool) (hk : k.wfStored) : ∀ op ∈ (leafScript k detail).getD [], op.ok := by
  unfold leafScript
  split
  · simpa [LeafKind.wfStored] using hk    -- leafError: its stored message
  · simp only [Option.getD_some, forall_mem_ite, List.forall_mem_append, List.forall_mem_cons]    -- unimplemented
    simp [lit']
  · simp only [Option.getD_some, forall_mem_ite, List.forall_mem_append, List.forall_mem_cons]    -- opaque leaf
    exact ⟨⟨by simp, nofun⟩, fun _ => opaqueDetailOps_ok _ _ _, fun _ => nofun⟩
  · nofun                                 -- no script

theorem barrierScript_ok (m : BarrierMsg) (hidV : Toks) (detail : Bool) (hm : LW (lexL m.smsg)) (hh : LW hidV) :
    ∀ op ∈ barrierScript m hidV detail, op.ok := by
  simp only [barrierScript, forall_mem_ite, List.forall_mem_append, List.forall_mem_cons]
  simp [hm, hh]

theorem secondScript_ok (hidV : Toks) (detail : Bool) (hh : LW hidV) : ∀ op ∈ secondScript hidV detail, op.ok := by
  simp only [secondScript, forall_mem_ite, List.forall_mem_cons]
  simp [hh]

theorem joinScript_ok (branches : List Toks) (h : ∀ t ∈ branches, LW t) : ∀ op ∈ joinScript branches, op.ok := by
  simp only [joinScript, List.forall_mem_flatMap, forall_mem_ite, List.forall_mem_append]
  exact fun x hx => by simp [h x.1 (List.fst_mem_of_mem_zipIdx hx)]

/-! ### the plain rendering contains no marker token: its bytes are its stripped form -/

theorem unlex_noMarkers : (t : Toks) → NoMarkers t → unlex t = stripT t
  | [], _ => rfl
  | .op :: r, h => absurd rfl (h .op (by simp)).1
  | .cl :: r, h => absurd rfl (h .cl (by simp)).2
  | .b c :: r, h => congrArg (c :: ·) (unlex_noMarkers r (fun x hx => h x (by simp [hx])))
  | .u c :: r, h => congrArg (c :: ·) (unlex_noMarkers r (fun x hx => h x (by simp [hx])))

structure Entry.NM (en : Entry) : Prop where
  head : NoMarkers en.head
  details : NoMarkers en.details

theorem singleLine_plain_NM (l : List Entry) (h : ∀ en ∈ l, en.NM) : NoMarkers (singleLine false l) :=
  singleLine_closed tokClosed_NoMarkers false l (fun en hen => by simpa [escIfNeeded] using (h en hen).head)

/-- in plain mode no marker; when the stored strings are well-formed (`wf`), an entry flagged redactable is well-formed.
    Only `head`, `details` and `redactable` count: `markElided` and `withStackOf` leave them alone.
    This is what the traversal of the error tree proves (`ents_sound`); `Entry.NM` and `Entry.Inv` are its two projections. -/
def Entry.Sound (red : Bool) (wf : Prop) (en : Entry) : Prop :=
  (red = false → NoMarkers en.head ∧ NoMarkers en.details) ∧ (wf → en.redactable = true → LW en.head ∧ LW en.details)

theorem Entry.Sound.nm {wf : Prop} {en : Entry} (h : en.Sound false wf) : en.NM := ⟨(h.1 rfl).1, (h.1 rfl).2⟩

theorem Entry.Sound.inv {red : Bool} {wf : Prop} {en : Entry} (h : en.Sound red wf) (hw : wf) : en.Inv :=
  ⟨fun hr => (h.2 hw hr).1, fun hr => (h.2 hw hr).2⟩

theorem Entry.Sound.mono {red : Bool} {wf wf' : Prop} {en : Entry} (hw : wf' → wf) (h : en.Sound red wf) :
    en.Sound red wf' := ⟨h.1, fun h' => h.2 (hw h')⟩

theorem withStackOf_sound {red : Bool} {wf : Prop} {en : Entry} (h : en.Sound red wf) (ls : Stack) (st : Option Stack) :
    (withStackOf en ls st).1.Sound red wf := by
  unfold withStackOf; split <;> exact h

theorem markElided_sound {red : Bool} {wf : Prop} {l : List Entry} (h : ∀ en ∈ l, en.Sound red wf) :
    ∀ en ∈ markElided l, en.Sound red wf := by
  simp only [markElided, List.forall_mem_map]
  exact h

/-- what a fitting script writes goes through the write machine and `collectEntry` unharmed; in plain mode a
    redactable buffer is stripped -/
theorem entry_sound (detail : Bool) (ops : List POp) (b red wd : Bool) (d : Nat) (t : Str) {wf : Prop}
    (h : ∀ op ∈ ops, op.fits wf b) : (collect (runOps detail ops) b red wd d t).Sound red wf := by
  refine ⟨?_, fun hw hr => ?_⟩
  · rintro rfl
    cases b
    · exact collect_closed tokClosed_NoMarkers
        (runOps_closed tokClosed_NoMarkers detail ops (fun _ hm => (h _ hm).elim) (fun s _ => NoMarkers_bytesU s)) ..
    · exact ⟨tokClosed_NoMarkers.bytes _, tokClosed_NoMarkers.bytes _⟩
  · obtain ⟨rfl, -⟩ : b = true ∧ red = true := by simpa [collect_redactable] using hr
    exact collect_closed tokClosed_LW
      (runOps_closed tokClosed_LW detail ops (fun segs hm => LW_assembleT segs (h _ hm hw)) (fun _ hm => (h _ hm hw).elim)) ..

theorem ents_leaf_sound (red detail : Bool) (id : Ident) (k : LeafKind) (o wd : Bool) (d : Nat) (ls : Stack) :
    ∀ en ∈ (ents red detail (.leaf id k) o wd d ls).1, en.Sound red k.wfStored := by
  unfold ents
  simp only []
  split
  · rename_i ops hops
    simpa using entry_sound detail ops true _ _ _ _ (fun op hop hk => leafScript_ok k detail hk op (hops ▸ hop))
  · split
    · -- pkg/errors' fundamental: plain writes, not redactable
      split <;> simp only [List.forall_mem_singleton]
      · exact entry_sound detail _ false _ _ _ _ (List.forall_mem_map.2 fun _ _ => trivial)
      · exact withStackOf_sound (entry_sound detail _ false _ _ _ _ (by simp)) ..
    · -- a safe sentinel or an errno: one safe literal; anything else: one plain write
      split
      · simpa using entry_sound detail _ true _ _ _ _ (by simp)
      · split <;> simp only [List.forall_mem_singleton]
        · exact entry_sound detail _ true _ _ _ _ (by simp)
        · exact entry_sound detail _ false _ _ _ _ (by simp)

mutual
theorem ents_sound : (e : Err) → ∀ (red detail o wd : Bool) (d : Nat) (ls : Stack),
    ∀ en ∈ (ents red detail e o wd d ls).1, en.Sound red (WFE e)
  | .leaf id k, red, detail, o, wd, d, ls => ents_leaf_sound red detail id k o wd d ls
  | .barrier id m hd, red, detail, o, wd, d, ls => by
    unfold ents
    simp only [List.forall_mem_singleton]
    refine entry_sound detail _ true _ _ _ _ (fun op hop h => barrierScript_ok _ _ _ h.1 ?_ op hop)
    split
    · exact fullOutput_LW _ (fun en hen => (ents_sound hd true true true false 0 [] en hen).inv h.2)
    · exact LW_nil
  | .wrap id k c, red, detail, o, wd, d, ls => by
    have ih : ∀ en ∈ (ents red detail c false wd (d + 1) ls).1, en.Sound red (WFE (.wrap id k c)) :=
      fun en hen => (ents_sound c red detail false wd (d + 1) ls en hen).mono And.right
    unfold ents
    simp only [List.forall_mem_append, List.forall_mem_singleton, forall_mem_ite]
    exact ⟨⟨fun _ => markElided_sound ih, fun _ => ih⟩,
      withStackOf_sound ((entry_sound detail _ _ _ _ _ _ (wrapOpsOf_fits k detail _)).mono And.left) ..⟩
  | .second id c s, red, detail, o, wd, d, ls => by
    have ih : ∀ en ∈ (ents red detail c false wd (d + 1) ls).1, en.Sound red (WFE (.second id c s)) :=
      fun en hen => (ents_sound c red detail false wd (d + 1) ls en hen).mono And.left
    unfold ents
    simp only [List.forall_mem_append, List.forall_mem_singleton]
    refine ⟨ih, entry_sound detail _ true _ _ _ _ (fun op hop h => secondScript_ok _ _ ?_ op hop)⟩
    split
    · exact fullOutput_LW _ (fun en hen => (ents_sound s true true true false 0 [] en hen).inv h.2)
    · exact LW_nil
  | .multi id k cs, red, detail, o, wd, d, ls => by
    have ih := markElided_sound (entsL_sound cs red detail (d + 1) ls)
    unfold ents
    simp only []
    split <;> simp only [List.forall_mem_append, List.forall_mem_singleton] <;>
      refine ⟨ih, entry_sound detail _ _ _ _ _ _ ?_⟩
    · exact fun op hop h => joinScript_ok _ (rendVL_LW cs h) op hop
    · exact fun op hop _ => leafScript_ok (.opaqueLeaf ..) detail trivial op hop
    · simp
theorem entsL_sound : (es : List Err) → ∀ (red detail : Bool) (d : Nat) (ls : Stack),
    ∀ en ∈ (entsL red detail es d ls).1, en.Sound red (WFEL es)
  | [], red, detail, d, ls => by simp [entsL]
  | e :: r, red, detail, d, ls => by
    unfold entsL
    simp only [List.forall_mem_append]
    exact ⟨fun en hen => (ents_sound e red detail false true d ls en hen).mono And.left,
      fun en hen => (entsL_sound r red detail d _ en hen).mono And.right⟩
theorem rendVL_LW : (es : List Err) → WFEL es → ∀ t ∈ rendVL es, LW t
  | [], _ => by simp [rendVL]
  | e :: r, h => by
    simp only [rendVL, List.forall_mem_cons]
    exact ⟨singleLine_LW _ (fun en hen => (ents_sound e true false true false 0 [] en hen).inv h.1), rendVL_LW r h.2⟩
end

/-- every entry the engine collects for a well-formed error is well-formed -/
theorem ents_inv : (e : Err) → WFE e → ∀ (red detail o wd : Bool) (d : Nat) (ls : Stack),
    ∀ en ∈ (ents red detail e o wd d ls).1, en.Inv :=
  fun e h red detail o wd d ls en hen => (ents_sound e red detail o wd d ls en hen).inv h

theorem entsL_inv : (es : List Err) → WFEL es → ∀ (red detail : Bool) (d : Nat) (ls : Stack),
    ∀ en ∈ (entsL red detail es d ls).1, en.Inv :=
  fun es h red detail d ls en hen => (entsL_sound es red detail d ls en hen).inv h

theorem ents_NM : (e : Err) → ∀ (detail o wd : Bool) (d : Nat) (ls : Stack), ∀ en ∈ (ents false detail e o wd d ls).1, en.NM :=
  fun e detail o wd d ls en hen => (ents_sound e false detail o wd d ls en hen).nm

theorem entsL_NM : (es : List Err) → ∀ (detail : Bool) (d : Nat) (ls : Stack), ∀ en ∈ (entsL false detail es d ls).1, en.NM :=
  fun es detail d ls en hen => (entsL_sound es false detail d ls en hen).nm

/-- the whole redactable rendering (as tokens) of a well-formed error is well-formed -/
theorem renderT_LW (detail : Bool) (e : Err) (h : WFE e) : LW (renderT true detail e) :=
  finish_LW detail _ (ents_inv e h true detail true false 0 [])

end ErrModel
