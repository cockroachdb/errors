/-
  The registered decoders as tiny straight-line programs (regenerated from /repo's source by
  go/extract decoders on every run, see Generated/DecoderFacts.lean) and a verified checker:
  a program accepted by `safe` never panics, whatever the payload and whatever the lengths of
  the detail / payload-field slices.
-/
namespace ErrModel.DecProg

inductive Op
  /-- `payload.(*T)`; `checked`: comma-ok form whose result is tested by a give-up guard, or a type switch -/
  | assert (checked : Bool)
  /-- `if … len(s) < n … { return nil }` -/
  | require (s n : Nat)
  /-- `s[i]`, evaluated inside `if len(s) > under-1 { … }` (`under = 0`: no such test) -/
  | index (s i under : Nat)
  /-- a construct the extractor does not recognise -/
  | unknown
  deriving DecidableEq, Repr, Inhabited

/-- what the decoder is called with: does the payload have the asserted type, and how long is each slice -/
structure Env where
  payloadOk : Bool
  len : Nat → Nat

inductive Outcome
  | panic | giveUp | done
  deriving DecidableEq, Repr

def run (env : Env) : List Op → Outcome
  | [] => .done
  | .assert checked :: r => if env.payloadOk then run env r else if checked then .giveUp else .panic
  | .require s n :: r => if env.len s < n then .giveUp else run env r
  | .index s i under :: r =>
    if env.len s < under then run env r          -- the enclosing `if len(s) > …` is not taken
    else if i < env.len s then run env r else .panic
  | .unknown :: _ => .panic                      -- not recognised: assume the worst

/-- the greatest lower bound on `len s` established so far -/
def lb : List (Nat × Nat) → Nat → Nat
  | [], _ => 0
  | (s', n) :: r, s => if s' = s then max n (lb r s) else lb r s

/-- the checker: every assertion is checked, every constant index is below an established bound -/
def safe (b : List (Nat × Nat)) : List Op → Bool
  | [] => true
  | .assert c :: r => c && safe b r
  | .require s n :: r => safe ((s, n) :: b) r
  | .index s i under :: r => decide (i < max (lb b s) under) && safe b r
  | .unknown :: _ => false

def Inv (b : List (Nat × Nat)) (env : Env) : Prop := ∀ p ∈ b, p.2 ≤ env.len p.1

theorem lb_le (b : List (Nat × Nat)) (env : Env) (h : Inv b env) (s : Nat) : lb b s ≤ env.len s := by
  induction b with
  | nil => simp [lb]
  | cons p r ih =>
    obtain ⟨s', n⟩ := p
    have hr : Inv r env := fun q hq => h q (List.mem_cons_of_mem _ hq)
    have hp : n ≤ env.len s' := h (s', n) (List.mem_cons_self ..)
    simp only [lb]
    split
    · next he => subst he; exact Nat.max_le.mpr ⟨hp, ih hr⟩
    · exact ih hr

theorem safe_sound (env : Env) : ∀ (ops : List Op) (b : List (Nat × Nat)), Inv b env → safe b ops = true → run env ops ≠ .panic := by
  intro ops b hi hs
  fun_induction safe b ops with
  | case1 => simp [run]   -- end of program
  | case2 b c r ih =>   -- a type assertion
    simp only [Bool.and_eq_true] at hs
    simp only [run]; split
    · exact ih hi hs.2
    · simp [hs.1]
  | case3 b s n r ih =>   -- a length guard
    simp only [run]; split
    · simp
    · next hlt => exact ih (List.forall_mem_cons.2 ⟨Nat.le_of_not_lt hlt, hi⟩) hs
  | case4 b s i under r ih =>   -- an index expression
    simp only [Bool.and_eq_true, decide_eq_true_eq] at hs
    have := lb_le b env hi s
    simp only [run]; split
    · exact ih hi hs.2
    · rw [if_pos (by omega)]; exact ih hi hs.2
  | case5 => cases hs   -- unrecognised: not accepted

structure Decoder where
  pkg : String
  fn : String
  key : String
  kind : String
  ops : List Op
  deriving Repr

end ErrModel.DecProg
