import ErrModel.Proto
/-
  Messages as lists of fields (`Item`, `parseItems`, `parse_own`), the lemmas about the field readers
  (`lastLd`, `lastVi`, `allLd`) and the layer decoder with its parts left open (`desLayer`): what every
  read-back proof of this file and of ProtoPay, ProtoFull, ProtoNest uses.  With them, the protobuf encoding
  of a whole `errorspb.EncodedError` without `full_details` payloads: the oneof, `EncodedErrorLeaf` (message,
  details, multierror_causes), `EncodedWrapper` (cause, message, details, message_type), recursively.
-/
namespace ErrModel.Proto

/-- one field on the wire: length-delimited (wire type 2) or varint (wire type 0) -/
inductive Item
  | ld (fno : Nat) (p : Bytes)
  | vi (fno : Nat) (v : Nat)
  deriving Repr, DecidableEq

def Item.ser : Item → Bytes
  | .ld fno p => lenField fno p
  | .vi fno v => UInt8.ofNat (fno * 8) :: varint v

def serItems : List Item → Bytes
  | [] => []
  | x :: r => x.ser ++ serItems r

/-- the field loop of the generated `Unmarshal` for wire types 0 and 2 -/
def parseItems : Nat → Bytes → Option (List Item)
  | _, [] => some []
  | 0, _ :: _ => none
  | f + 1, tag :: r =>
    if tag.toNat % 8 = 2 then
      match readVarint 10 r with
      | none => none
      | some (len, r') =>
        if r'.length < len then none
        else match parseItems f (r'.drop len) with
          | none => none
          | some fs => some (.ld (tag.toNat / 8) (r'.take len) :: fs)
    else if tag.toNat % 8 = 0 then
      match readVarint 10 r with
      | none => none
      | some (v, r') =>
        match parseItems f r' with
        | none => none
        | some fs => some (.vi (tag.toNat / 8) v :: fs)
    else none

def Item.ok : Item → Prop
  | .ld fno p => 1 ≤ fno ∧ fno < 16 ∧ p.length < 2 ^ 64
  | .vi fno v => 1 ≤ fno ∧ fno < 16 ∧ v < 2 ^ 64

@[simp] theorem Item.ok_ld (k : Nat) (p : Bytes) : (Item.ld k p).ok ↔ 1 ≤ k ∧ k < 16 ∧ p.length < 2 ^ 64 := Iff.rfl
@[simp] theorem Item.ok_vi (k v : Nat) : (Item.vi k v).ok ↔ 1 ≤ k ∧ k < 16 ∧ v < 2 ^ 64 := Iff.rfl

theorem parseItems_ser (x : Item) (hx : x.ok) (f : Nat) (rest : Bytes) :
    parseItems (f + 1) (x.ser ++ rest) = (parseItems f rest).map (x :: ·) := by
  cases x with
  | ld fno p =>
    have ⟨hm, hd⟩ := tag_toNat fno 2 hx.2.1 (by decide)
    simp only [Item.ser, lenField, List.cons_append, List.append_assoc, parseItems, hm, hd,
      readVarint_varint _ 10 _ (varint_length_u64 _ hx.2.2)]
    cases h : parseItems f rest <;> simp [h]
  | vi fno v =>
    have ⟨hm, hd⟩ := Nat.add_zero (fno * 8) ▸ tag_toNat fno 0 hx.2.1 (by decide)
    simp only [Item.ser, List.cons_append, parseItems, hm, hd, readVarint_varint _ 10 _ (varint_length_u64 _ hx.2.2)]
    cases parseItems f rest <;> rfl

theorem parseItems_serItems : ∀ (xs : List Item) (f : Nat), (∀ x ∈ xs, x.ok) → xs.length ≤ f →
    parseItems f (serItems xs) = some xs
  | [], f, _, _ => by cases f <;> rfl
  | x :: r, f + 1, hok, hf => by
    have ⟨hx, hr⟩ := List.forall_mem_cons.1 hok
    rw [serItems, parseItems_ser x hx, parseItems_serItems r f hr (by simpa using hf)]; rfl


/-- an `EncodedError` without `full_details` payloads -/
inductive W
  | leaf (msg : Str) (d : Det) (cs : List W)
  | wrap (msg : Str) (d : Det) (mt : Nat) (c : W)
  deriving Repr, Inhabited

mutual
/-- forget the payloads (and what they hide) -/
def core : Enc → W
  | .leaf msg d _ cs => .leaf msg { d with pay := .none } (coreL cs)
  | .wrap msg d mt _ c => .wrap msg { d with pay := .none } mt (core c)
def coreL : List Enc → List W
  | [] => []
  | e :: r => core e :: coreL r
end

def optLd (fno : Nat) (s : Str) : List Item := if s = [] then [] else [.ld fno s]
def optVi (fno : Nat) (v : Nat) : List Item := if v = 0 then [] else [.vi fno v]

def leafItems (msg : Str) (d : Det) (kids : List Bytes) : List Item :=
  optLd 1 msg ++ [.ld 2 (serDet d)] ++ kids.map (fun b => .ld 3 b)

def wrapItems (msg : Str) (d : Det) (mt : Nat) (kid : Bytes) : List Item :=
  [.ld 1 kid] ++ optLd 2 msg ++ [.ld 3 (serDet d)] ++ optVi 4 mt

mutual
/-- `(*EncodedError).Marshal` (payloads cleared) -/
def serW : W → Bytes
  | .leaf msg d cs => lenField 1 (serItems (leafItems msg d (serWs cs)))
  | .wrap msg d mt c => lenField 2 (serItems (wrapItems msg d mt (serW c)))
def serWs : List W → List Bytes
  | [] => []
  | w :: r => serW w :: serWs r
end

def lastLd (xs : List Item) (n : Nat) : Option Bytes :=
  xs.foldl (fun acc x => match x with | .ld fno p => if fno = n then some p else acc | _ => acc) none

def lastVi (xs : List Item) (n : Nat) : Nat :=
  xs.foldl (fun acc x => match x with | .vi fno v => if fno = n then v else acc | _ => acc) 0

def allLd (xs : List Item) (n : Nat) : List Bytes :=
  xs.filterMap (fun x => match x with | .ld fno p => if fno = n then some p else none | _ => none)

/-- which member of the oneof was written last -/
def lastOneof (xs : List Item) : Option (Bool × Bytes) :=
  xs.foldl (fun acc x => match x with
    | .ld fno p => if fno = 1 then some (true, p) else if fno = 2 then some (false, p) else acc
    | _ => acc) none

def detOfBytes (b : Option Bytes) : Option Det :=
  match desDet (b.getD []) with
  | none => none
  | some (ot, mk, rep) => some ⟨ot, mk, rep, .none⟩

mutual
/-- `(*EncodedError).Unmarshal` (payloads ignored); `none` = the reader returns an error, or no
    member of the oneof is set -/
def desW : Nat → Bytes → Option W
  | 0, _ => none
  | f + 1, b =>
    match parseItems b.length b with
    | none => none
    | some top =>
      match lastOneof top with
      | none => none
      | some (true, body) =>
        match parseItems body.length body with
        | none => none
        | some xs =>
          match detOfBytes (lastLd xs 2), desWs f (allLd xs 3) with
          | some d, some cs => some (.leaf ((lastLd xs 1).getD []) d cs)
          | _, _ => none
      | some (false, body) =>
        match parseItems body.length body with
        | none => none
        | some xs =>
          match detOfBytes (lastLd xs 3), desW f ((lastLd xs 1).getD []) with
          | some d, some c => some (.wrap ((lastLd xs 2).getD []) d (lastVi xs 4) c)
          | _, _ => none
def desWs : Nat → List Bytes → Option (List W)
  | _, [] => some []
  | f, b :: r =>
    match desW f b, desWs f r with
    | some w, some ws => some (w :: ws)
    | _, _ => none
end

theorem length_le_serItems : ∀ xs : List Item, xs.length ≤ (serItems xs).length
  | [] => by simp [serItems]
  | x :: r => by
    have := length_le_serItems r
    cases x <;> simp only [serItems, Item.ser, lenField, List.length_cons, List.length_append] <;> omega

/-- every item of a message satisfies `P`.  Under a name of its own, so that `simp` takes it apart along
    the way the message is put together (the lemmas below) and not along `∈`. -/
def All (P : Item → Prop) (xs : List Item) : Prop := ∀ x ∈ xs, P x

@[simp] theorem all_nil (P : Item → Prop) : All P [] := fun _ h => nomatch h
@[simp] theorem all_cons (P : Item → Prop) (x : Item) (B : List Item) : All P (x :: B) ↔ P x ∧ All P B := List.forall_mem_cons
@[simp] theorem all_append (P : Item → Prop) (A B : List Item) : All P (A ++ B) ↔ All P A ∧ All P B := List.forall_mem_append
@[simp] theorem all_map (P : Item → Prop) (f : α → Item) (l : List α) : All P (l.map f) ↔ ∀ a ∈ l, P (f a) := List.forall_mem_map
@[simp] theorem all_optLd (P : Item → Prop) (k : Nat) (s : Str) : All P (optLd k s) ↔ (s ≠ [] → P (.ld k s)) := by
  unfold optLd; split <;> simp [*]
@[simp] theorem all_optVi (P : Item → Prop) (k v : Nat) : All P (optVi k v) ↔ (v ≠ 0 → P (.vi k v)) := by
  unfold optVi; split <;> simp [*]

theorem parse_own (xs : List Item) (h : All Item.ok xs) : parseItems (serItems xs).length (serItems xs) = some xs :=
  parseItems_serItems xs _ h (length_le_serItems xs)

/-- what `Item.ok` asks besides the length of a length-delimited field -/
def Item.inRange : Item → Prop
  | .ld k _ => 1 ≤ k ∧ k < 16
  | .vi k v => 1 ≤ k ∧ k < 16 ∧ v < 2 ^ 64

@[simp] theorem Item.inRange_ld (k : Nat) (p : Bytes) : (Item.ld k p).inRange ↔ 1 ≤ k ∧ k < 16 := Iff.rfl
@[simp] theorem Item.inRange_vi (k v : Nat) : (Item.vi k v).inRange ↔ 1 ≤ k ∧ k < 16 ∧ v < 2 ^ 64 := Iff.rfl

theorem all_ok_of_small : ∀ {xs : List Item}, (serItems xs).length < 2 ^ 64 → All Item.inRange xs → All Item.ok xs
  | [], _, _ => all_nil _
  | x :: r, hb, h => by
    rw [serItems, List.length_append] at hb
    rw [all_cons] at h ⊢
    refine ⟨?_, all_ok_of_small (by omega) h.2⟩
    cases x with
    | vi => exact h.1
    | ld k p => exact ⟨h.1.1, h.1.2, by rw [Item.ser, lenField_length] at hb; omega⟩

theorem top_parse (fno : Nat) (h1 : 1 ≤ fno) (h2 : fno < 16) (body : Bytes) (hb : body.length < 2 ^ 64) :
    parseItems (lenField fno body).length (lenField fno body) = some [.ld fno body] := by
  simpa [serItems, Item.ser] using parse_own [.ld fno body] (by simp [h1, h2, hb])

/-! A reader of field `n` (`lastLd`, `lastVi`, `allLd`) sees only the items numbered `n`: the rest of the
message can be dropped (`_append_left`, `_append_right`, `_cons_`, `_eq_`), and where the field was
written an omitted default reads as the default (`getD_lastLd_optLd`, `lastVi_optVi`).  With these,
reading a field of a message given as `A ++ B ++ …` is rewriting, whatever is empty.  `simp` nests `++`
to the right, so the head is tried first (`high`); the `_eq_` forms match every read and come last. -/

def Item.fno : Item → Nat
  | .ld k _ => k
  | .vi k _ => k

@[simp] theorem Item.fno_ld (k : Nat) (p : Bytes) : (Item.ld k p).fno = k := rfl
@[simp] theorem Item.fno_vi (k v : Nat) : (Item.vi k v).fno = k := rfl

@[simp] theorem lastLd_append_left {A B : List Item} {n : Nat} (h : All (·.fno ≠ n) B) : lastLd (A ++ B) n = lastLd A n := by
  simp only [lastLd, List.foldl_append]
  exact foldl_silent fun x hx => by cases x with | ld => exact if_neg (h _ hx) | vi => rfl

@[simp low] theorem lastLd_eq_none {xs : List Item} {n : Nat} (h : All (·.fno ≠ n) xs) : lastLd xs n = none :=
  lastLd_append_left (A := []) h

@[simp high] theorem lastLd_append_right {A B : List Item} {n : Nat} (h : All (·.fno ≠ n) A) : lastLd (A ++ B) n = lastLd B n := by
  have := lastLd_eq_none h
  simp only [lastLd, List.foldl_append] at this ⊢
  rw [this]

@[simp high] theorem lastLd_cons_right {x : Item} {B : List Item} {n : Nat} (h : ¬x.fno = n) : lastLd (x :: B) n = lastLd B n :=
  lastLd_append_right (A := [x]) (by simpa using h)

@[simp] theorem lastLd_cons_left {x : Item} {B : List Item} {n : Nat} (h : All (·.fno ≠ n) B) : lastLd (x :: B) n = lastLd [x] n :=
  lastLd_append_left (A := [x]) h

@[simp] theorem lastVi_append_left {A B : List Item} {n : Nat} (h : All (·.fno ≠ n) B) : lastVi (A ++ B) n = lastVi A n := by
  simp only [lastVi, List.foldl_append]
  exact foldl_silent fun x hx => by cases x with | vi => exact if_neg (h _ hx) | ld => rfl

@[simp low] theorem lastVi_eq_zero {xs : List Item} {n : Nat} (h : All (·.fno ≠ n) xs) : lastVi xs n = 0 :=
  lastVi_append_left (A := []) h

@[simp high] theorem lastVi_append_right {A B : List Item} {n : Nat} (h : All (·.fno ≠ n) A) : lastVi (A ++ B) n = lastVi B n := by
  have := lastVi_eq_zero h
  simp only [lastVi, List.foldl_append] at this ⊢
  rw [this]

@[simp high] theorem lastVi_cons_right {x : Item} {B : List Item} {n : Nat} (h : ¬x.fno = n) : lastVi (x :: B) n = lastVi B n :=
  lastVi_append_right (A := [x]) (by simpa using h)

@[simp] theorem allLd_append (A B : List Item) (n : Nat) : allLd (A ++ B) n = allLd A n ++ allLd B n := by
  simp [allLd, List.filterMap_append]

@[simp] theorem allLd_cons (k n : Nat) (p : Bytes) (B : List Item) :
    allLd (.ld k p :: B) n = if k = n then p :: allLd B n else allLd B n := by
  by_cases h : k = n <;> simp [allLd, h]

@[simp low] theorem allLd_eq_nil {xs : List Item} {n : Nat} (h : All (·.fno ≠ n) xs) : allLd xs n = [] := by
  simp only [allLd, List.filterMap_eq_nil_iff]
  intro x hx; have := h x hx; cases x <;> simp_all

@[simp] theorem getD_lastLd_optLd (n : Nat) (s : Str) : (lastLd (optLd n s) n).getD [] = s := by
  unfold optLd; split <;> simp [lastLd, *]

@[simp] theorem lastLd_singleton (k n : Nat) (p : Bytes) : lastLd [.ld k p] n = if k = n then some p else none := rfl

@[simp] theorem lastVi_optVi (n v : Nat) : lastVi (optVi n v) n = v := by
  unfold optVi; split <;> simp [lastVi, *]

@[simp] theorem allLd_map (k n : Nat) (f : α → Bytes) (l : List α) :
    allLd (l.map (fun a => Item.ld k (f a))) n = if k = n then l.map f else [] := by
  simp only [allLd, List.filterMap_map]
  split <;> simp [Function.comp_def, *]

/-- the same with `f` the identity, in the form `simp` brings it to -/
@[simp] theorem allLd_map_ld (k n : Nat) (l : List Bytes) : allLd (l.map (Item.ld k)) n = if k = n then l else [] :=
  (allLd_map k n id l).trans (by rw [List.map_id])

/-- One layer is read the same way whatever its details and its children are decoded to (`det`, `decs`, `dec`)
    and whatever is built from them (`leaf`, `wrap`): the oneof, the field loop, the fields.  `desW`, `desF` and
    `desG` are instances (`desW_succ`, `desF_succ`, `desG_succ`). -/
def desLayer (det : Option Bytes → Option δ) (decs : List Bytes → Option κs) (dec : Bytes → Option κ)
    (leaf : Str → δ → κs → α) (wrap : Str → δ → Nat → κ → α) (b : Bytes) : Option α :=
  match parseItems b.length b with
  | none => none
  | some top =>
    match lastOneof top with
    | none => none
    | some (true, body) =>
      match parseItems body.length body with
      | none => none
      | some xs =>
        match det (lastLd xs 2), decs (allLd xs 3) with
        | some d, some cs => some (leaf ((lastLd xs 1).getD []) d cs)
        | _, _ => none
    | some (false, body) =>
      match parseItems body.length body with
      | none => none
      | some xs =>
        match det (lastLd xs 3), dec ((lastLd xs 1).getD []) with
        | some d, some c => some (wrap ((lastLd xs 2).getD []) d (lastVi xs 4) c)
        | _, _ => none

theorem lastOneof_leaf (b : Bytes) : lastOneof [.ld 1 b] = some (true, b) := rfl
theorem lastOneof_wrap (b : Bytes) : lastOneof [.ld 2 b] = some (false, b) := rfl

section
variable {det : Option Bytes → Option δ} {decs : List Bytes → Option κs} {dec : Bytes → Option κ}
  {leaf : Str → δ → κs → α} {wrap : Str → δ → Nat → κ → α}

/-- an `EncodedErrorLeaf` with message `msg`, details `db` and children `kids` (any bytes that decode) -/
theorem desLayer_leaf {msg db : Bytes} {kids : List Bytes} {d : δ} {cs : κs}
    (hbody : (serItems (optLd 1 msg ++ [.ld 2 db] ++ kids.map (fun b => .ld 3 b))).length < 2 ^ 64)
    (hdet : det (some db) = some d) (hkids : decs kids = some cs) :
    desLayer det decs dec leaf wrap (lenField 1 (serItems (optLd 1 msg ++ [.ld 2 db] ++ kids.map (fun b => .ld 3 b)))) =
      some (leaf msg d cs) := by
  simp only [desLayer, top_parse 1 (by decide) (by decide) _ hbody, lastOneof_leaf,
    parse_own _ (all_ok_of_small hbody (by simp))]
  simp [hdet, hkids]

/-- an `EncodedWrapper` with cause `kid`, message `msg`, details `db` and message type `mt` -/
theorem desLayer_wrap {kid msg db : Bytes} {mt : Nat} {d : δ} {c : κ} (hmt : mt < 2 ^ 64)
    (hbody : (serItems ([.ld 1 kid] ++ optLd 2 msg ++ [.ld 3 db] ++ optVi 4 mt)).length < 2 ^ 64)
    (hdet : det (some db) = some d) (hkid : dec kid = some c) :
    desLayer det decs dec leaf wrap (lenField 2 (serItems ([.ld 1 kid] ++ optLd 2 msg ++ [.ld 3 db] ++ optVi 4 mt))) =
      some (wrap msg d mt c) := by
  simp only [desLayer, top_parse 2 (by decide) (by decide) _ hbody, lastOneof_wrap,
    parse_own _ (all_ok_of_small hbody (by simp [hmt]))]
  simp [hdet, hkid]

end

/- The two sides differ only in the auxiliary matcher of the innermost `match` (the same case tree, once over
   `Det` and `W`, once over any types), stuck on a variable; `rfl` unfolds such a matcher only with smart
   unfolding off.  Likewise `desF_succ`, `desG_succ`. -/
set_option smartUnfolding false in
theorem desW_succ (f : Nat) (b : Bytes) : desW (f + 1) b = desLayer detOfBytes (desWs f) (desW f) .leaf .wrap b := by
  rw [desW]; rfl

def DetSmall (d : Det) : Prop :=
  d.origType.length < 2 ^ 64 ∧ d.mark.fam.length < 2 ^ 62 ∧ d.mark.ext.length < 2 ^ 62 ∧ (∀ s ∈ d.rep, s.length < 2 ^ 64) ∧
  (serDet d).length < 2 ^ 64 ∧ d.pay = .none

theorem detOfBytes_serDet (d : Det) (h : DetSmall d) : detOfBytes (some (serDet d)) = some d := by
  obtain ⟨h1, h2, h3, h4, _, h6⟩ := h
  simp only [detOfBytes, Option.getD_some, desDet_serDet d h1 h2 h3 h4]
  cases d; simp at h6; simp [h6]

mutual
/-- every length that is written as a prefix fits 64 bits (and there are no payloads) -/
def SmallW : W → Prop
  | .leaf msg d cs => msg.length < 2 ^ 64 ∧ DetSmall d ∧ (serItems (leafItems msg d (serWs cs))).length < 2 ^ 64 ∧ SmallWs cs
  | .wrap msg d mt c => msg.length < 2 ^ 64 ∧ DetSmall d ∧ mt < 2 ^ 64 ∧ (serItems (wrapItems msg d mt (serW c))).length < 2 ^ 64 ∧
      (serW c).length < 2 ^ 64 ∧ SmallW c
def SmallWs : List W → Prop
  | [] => True
  | w :: r => (serW w).length < 2 ^ 64 ∧ SmallW w ∧ SmallWs r
end

mutual
def height : W → Nat
  | .leaf _ _ cs => heightL cs + 1
  | .wrap _ _ _ c => height c + 1
def heightL : List W → Nat
  | [] => 0
  | w :: r => max (height w) (heightL r)
end

mutual
theorem desW_serW : (w : W) → (f : Nat) → height w ≤ f → SmallW w → desW f (serW w) = some w
  | .leaf msg d cs, f + 1, hf, ⟨_, hd, hbody, hcs⟩ => by
    rw [serW, leafItems, desW_succ]
    exact desLayer_leaf hbody (detOfBytes_serDet d hd) (desWs_serWs cs f (Nat.le_of_succ_le_succ hf) hcs)
  | .wrap msg d mt c, f + 1, hf, ⟨_, hd, hmt, hbody, _, hc⟩ => by
    rw [serW, wrapItems, desW_succ]
    exact desLayer_wrap hmt hbody (detOfBytes_serDet d hd) (desW_serW c f (Nat.le_of_succ_le_succ hf) hc)
theorem desWs_serWs : (ws : List W) → (f : Nat) → heightL ws ≤ f → SmallWs ws → desWs f (serWs ws) = some ws
  | [], f, _, _ => by simp [serWs, desWs]
  | w :: r, f, hf, ⟨_, hw, hr⟩ => by
    have ⟨h1, h2⟩ := Nat.max_le.mp hf
    simp [serWs, desWs, desW_serW w f h1 hw, desWs_serWs r f h2 hr]
end

end ErrModel.Proto
