import ErrModel.ProtoFull
/-
  The complete `EncodedError`: payloads that are flat payload messages, or a nested `EncodedError`
  (the masked error of a barrier, a secondary error) carried in the `Any` of its layer.
-/
namespace ErrModel.Proto

/-- an `EncodedError` with all its payloads: flat payload messages in `d.pay`, a nested `EncodedError` in `hid` -/
inductive G
  | leaf (msg : Str) (d : Det) (hid : Option G) (cs : List G)
  | wrap (msg : Str) (d : Det) (mt : Nat) (hid : Option G) (c : G)
  deriving Repr, Inhabited

def encName : Str := b!"cockroach.errorspb.EncodedError"

/-- the details of a layer whose payload is a nested message (`nested`, already serialised) or `d.pay` -/
def detItemsG (d : Det) (nested : Option Bytes) : List Item :=
  optLd 1 d.origType ++ [.ld 2 (serMark d.mark)] ++ d.rep.map (fun s => .ld 3 s) ++
    (match nested with
     | some hb => [.ld 4 (serAny (urlPrefix ++ encName) hb)]
     | none => anyItems d.pay)

mutual
def serG : G → Bytes
  | .leaf msg d hid cs =>
    lenField 1 (serItems (optLd 1 msg ++ [.ld 2 (serItems (detItemsG d (serGo hid)))] ++ (serGs cs).map (fun b => .ld 3 b)))
  | .wrap msg d mt hid c =>
    lenField 2 (serItems ([.ld 1 (serG c)] ++ optLd 2 msg ++ [.ld 3 (serItems (detItemsG d (serGo hid)))] ++ optVi 4 mt))
def serGo : Option G → Option Bytes
  | none => none
  | some g => some (serG g)
def serGs : List G → List Bytes
  | [] => []
  | w :: r => serG w :: serGs r
end

/-- the details and, when the payload is a nested message, that message decoded by `rec` -/
def detOfBytesG (rec : Bytes → Option G) (b : Option Bytes) : Option (Det × Option G) :=
  match parseItems (b.getD []).length (b.getD []) with
  | none => none
  | some xs =>
    match desMark ((lastLd xs 2).getD []) with
    | none => none
    | some mk =>
      match lastLd xs 4 with
      | none => some (⟨(lastLd xs 1).getD [], mk, allLd xs 3, .none⟩, none)
      | some a =>
        match desAny a with
        | none => none
        | some (url, val) =>
          match stripPrefix? urlPrefix url with
          | none => none
          | some name =>
            if name = encName then
              match rec val with
              | none => none
              | some g => some (⟨(lastLd xs 1).getD [], mk, allLd xs 3, .none⟩, some g)
            else
              match desPayNamed name val with
              | none => none
              | some p => some (⟨(lastLd xs 1).getD [], mk, allLd xs 3, p⟩, none)

mutual
def desG : Nat → Bytes → Option G
  | 0, _ => none
  | f + 1, b =>
    match parseItems b.length b with
    | none => none
    | some top =>
      match lastOneof top with
      | none => none
      | some (true, body) =>
        match parseItems body.length body with
        | none => none
        | some xs =>
          match detOfBytesG (desG f) (lastLd xs 2), desGs f (allLd xs 3) with
          | some (d, hid), some cs => some (.leaf ((lastLd xs 1).getD []) d hid cs)
          | _, _ => none
      | some (false, body) =>
        match parseItems body.length body with
        | none => none
        | some xs =>
          match detOfBytesG (desG f) (lastLd xs 3), desG f ((lastLd xs 1).getD []) with
          | some (d, hid), some c => some (.wrap ((lastLd xs 2).getD []) d (lastVi xs 4) hid c)
          | _, _ => none
def desGs : Nat → List Bytes → Option (List G)
  | _, [] => some []
  | f, b :: r =>
    match desG f b, desGs f r with
    | some w, some ws => some (w :: ws)
    | _, _ => none
end


mutual
/-- an `EncodedError` value as a byte-level message: the nested payload of a layer is the head of `hid` -/
def fullG : Enc → G
  | .leaf msg d hid cs => .leaf msg d (fullGo hid) (fullGL cs)
  | .wrap msg d mt hid c => .wrap msg d mt (fullGo hid) (fullG c)
def fullGo : List Enc → Option G
  | [] => none
  | e :: _ => some (fullG e)
def fullGL : List Enc → List G
  | [] => []
  | e :: r => fullG e :: fullGL r
end

mutual
/-- every payload, at any nesting level, is absent, a modelled flat message, or a nested message -/
def modelled : Enc → Bool
  | .leaf _ d hid cs => (if hid.isEmpty then (d.pay == .none || (payFields d.pay).isSome) else modelledL hid) && modelledL cs
  | .wrap _ d _ hid c => (if hid.isEmpty then (d.pay == .none || (payFields d.pay).isSome) else modelledL hid) && modelled c
def modelledL : List Enc → Bool
  | [] => true
  | e :: r => modelled e && modelledL r
end


def NestOK (d : Det) : Option Bytes → Prop
  | some hb => hb.length < 2 ^ 64 ∧ (serAny (urlPrefix ++ encName) hb).length < 2 ^ 64 ∧ d.pay = .none
  | none => PayOK d.pay

def DetSmallG (d : Det) (nested : Option Bytes) : Prop :=
  d.origType.length < 2 ^ 64 ∧ d.mark.fam.length < 2 ^ 62 ∧ d.mark.ext.length < 2 ^ 62 ∧ (∀ s ∈ d.rep, s.length < 2 ^ 64) ∧
  (serItems (detItemsG d nested)).length < 2 ^ 64 ∧ NestOK d nested

/-- a nested `EncodedError` is not one of the flat payload messages -/
theorem desPayNamed_encName (val : Bytes) : desPayNamed encName val = none := by
  unfold desPayNamed
  split <;> rfl

/-- whatever the reader of flat payloads accepts, the reader of nested ones reads the same way -/
theorem detOfBytesG_of_P (rec : Bytes → Option G) {b : Option Bytes} {d : Det} (h : detOfBytesP b = some d) :
    detOfBytesG rec b = some (d, none) := by
  unfold detOfBytesP at h
  unfold detOfBytesG
  -- one `split` per `match` of `detOfBytesP`; a `none` branch contradicts `h`; what remains: no payload, or a flat one `p` named `name`
  split at h <;> try contradiction
  split at h <;> try contradiction
  split at h
  · simp_all
  · split at h <;> try contradiction
    split at h <;> try contradiction
    split at h <;> try contradiction
    rename_i name _ _ p hp
    have : name ≠ encName := fun e => by simp [e, desPayNamed_encName] at hp
    simp_all

theorem detOfBytesG_nested (rec : Bytes → Option G) (d : Det) (hb : Bytes) (g : G) (h : DetSmallG d (some hb)) (hrec : rec hb = some g) :
    detOfBytesG rec (some (serItems (detItemsG d (some hb)))) = some (d, some g) := by
  obtain ⟨_, h2, h3, _, hl, hlb, _, hp⟩ := h
  have hmk := desMark_serMark d.mark (lt_u64_of_lt_u62 h2) (lt_u64_of_lt_u62 h3)
  rw [detItemsG] at hl
  rw [detOfBytesG, Option.getD_some, detItemsG, parse_own _ (all_ok_of_small hl (by simp))]
  obtain ⟨ot, mk, rep, pay⟩ := d
  cases hp
  simp [hmk, hrec, desAny_serAny _ _ (show (urlPrefix ++ encName).length < 2 ^ 64 by decide) hlb, stripPrefix?_append]


def leafItemsB (msg : Str) (db : Bytes) (kids : List Bytes) : List Item :=
  optLd 1 msg ++ [.ld 2 db] ++ kids.map (fun b => .ld 3 b)

def wrapItemsB (msg : Str) (db : Bytes) (mt : Nat) (kid : Bytes) : List Item :=
  [.ld 1 kid] ++ optLd 2 msg ++ [.ld 3 db] ++ optVi 4 mt

mutual
def heightG : G → Nat
  | .leaf _ _ hid cs => max (heightGo hid) (heightGL cs) + 1
  | .wrap _ _ _ hid c => max (heightGo hid) (heightG c) + 1
def heightGo : Option G → Nat
  | none => 0
  | some g => heightG g
def heightGL : List G → Nat
  | [] => 0
  | w :: r => max (heightG w) (heightGL r)
end

mutual
/-- every length that is written as a prefix fits 64 bits, and every payload is modelled -/
def SmallG : G → Prop
  | .leaf msg d hid cs => msg.length < 2 ^ 64 ∧ DetSmallG d (serGo hid) ∧
      (serItems (leafItemsB msg (serItems (detItemsG d (serGo hid))) (serGs cs))).length < 2 ^ 64 ∧ SmallGo hid ∧ SmallGs cs
  | .wrap msg d mt hid c => msg.length < 2 ^ 64 ∧ DetSmallG d (serGo hid) ∧ mt < 2 ^ 64 ∧
      (serItems (wrapItemsB msg (serItems (detItemsG d (serGo hid))) mt (serG c))).length < 2 ^ 64 ∧
      (serG c).length < 2 ^ 64 ∧ SmallGo hid ∧ SmallG c
def SmallGo : Option G → Prop
  | none => True
  | some g => SmallG g
def SmallGs : List G → Prop
  | [] => True
  | w :: r => (serG w).length < 2 ^ 64 ∧ SmallG w ∧ SmallGs r
end

set_option smartUnfolding false in
theorem desG_succ (f : Nat) (b : Bytes) : desG (f + 1) b = desLayer (detOfBytesG (desG f)) (desGs f) (desG f)
    (fun msg dh cs => .leaf msg dh.1 dh.2 cs) (fun msg dh mt c => .wrap msg dh.1 mt dh.2 c) b := by
  rw [desG]; rfl

mutual
theorem desG_serG : (w : G) → (f : Nat) → heightG w ≤ f → SmallG w → desG f (serG w) = some w
  | .leaf msg d hid cs, f + 1, hf, ⟨_, hd, hbody, hhid, hcs⟩ => by
    have ⟨h1, h2⟩ := Nat.max_le.mp (Nat.le_of_succ_le_succ hf)
    rw [serG, desG_succ]
    exact desLayer_leaf hbody (detG_ser d hid f h1 hd hhid) (desGs_serGs cs f h2 hcs)
  | .wrap msg d mt hid c, f + 1, hf, ⟨_, hd, hmt, hbody, _, hhid, hc⟩ => by
    have ⟨h1, h2⟩ := Nat.max_le.mp (Nat.le_of_succ_le_succ hf)
    rw [serG, desG_succ]
    exact desLayer_wrap hmt hbody (detG_ser d hid f h1 hd hhid) (desG_serG c f h2 hc)
theorem detG_ser : (d : Det) → (hid : Option G) → (f : Nat) → heightGo hid ≤ f → DetSmallG d (serGo hid) → SmallGo hid →
    detOfBytesG (desG f) (some (serItems (detItemsG d (serGo hid)))) = some (d, hid)
  -- without a nested message `serGo`, `DetSmallG`, `detItemsG` unfold to `DetSmallP`, `serDetP` of ProtoFull.lean
  | d, none, f, _, hd, _ => detOfBytesG_of_P (desG f) (detOfBytesP_serDetP d hd)
  | d, some g, f, hf, hd, hs => detOfBytesG_nested (desG f) d (serG g) g hd (desG_serG g f hf hs)
theorem desGs_serGs : (ws : List G) → (f : Nat) → heightGL ws ≤ f → SmallGs ws → desGs f (serGs ws) = some ws
  | [], f, _, _ => by simp [serGs, desGs]
  | w :: r, f, hf, ⟨_, hw, hr⟩ => by
    have ⟨h1, h2⟩ := Nat.max_le.mp hf
    simp [serGs, desGs, desG_serG w f h1 hw, desGs_serGs r f h2 hr]
end

end ErrModel.Proto
