import ErrModel.ProtoNest
import ErrModel.Transport
/-
  A network hop through actual bytes for every `EncodedError` value whose payloads are modelled
  (flat payload messages and nested EncodedError messages): everything but a gRPC status that carries
  details and an `Any` of a type unknown to the process (`Pay.raw`).
-/
namespace ErrModel.Proto

mutual
def unfullG : G → Enc
  | .leaf msg d hid cs => .leaf msg d (unfullGo hid) (unfullGL cs)
  | .wrap msg d mt hid c => .wrap msg d mt (unfullGo hid) (unfullG c)
def unfullGo : Option G → List Enc
  | none => []
  | some g => [unfullG g]
def unfullGL : List G → List Enc
  | [] => []
  | w :: r => unfullG w :: unfullGL r
end

mutual
/-- a layer carries at most one nested message (what EncodeError produces) -/
def oneHid : Enc → Bool
  | .leaf _ _ hid cs => oneHidH hid && oneHidL cs
  | .wrap _ _ _ hid c => oneHidH hid && oneHid c
def oneHidH : List Enc → Bool
  | [] => true
  | [e] => oneHid e
  | _ :: _ :: _ => false
def oneHidL : List Enc → Bool
  | [] => true
  | e :: r => oneHid e && oneHidL r
end

mutual
theorem unfullG_fullG : (w : Enc) → oneHid w = true → unfullG (fullG w) = w
  | .leaf msg d hid cs, h => by
    simp only [oneHid, Bool.and_eq_true] at h
    simp [fullG, unfullG, unfullGo_fullGo hid h.1, unfullGL_fullGL cs h.2]
  | .wrap msg d mt hid c, h => by
    simp only [oneHid, Bool.and_eq_true] at h
    simp [fullG, unfullG, unfullGo_fullGo hid h.1, unfullG_fullG c h.2]
theorem unfullGo_fullGo : (hid : List Enc) → oneHidH hid = true → unfullGo (fullGo hid) = hid
  | [], _ => rfl
  | [e], h => by
    simp only [oneHidH] at h
    simp [fullGo, unfullGo, unfullG_fullG e h]
  | _ :: _ :: _, h => by simp [oneHidH] at h
theorem unfullGL_fullGL : (l : List Enc) → oneHidL l = true → unfullGL (fullGL l) = l
  | [], _ => rfl
  | e :: r, h => by
    simp only [oneHidL, Bool.and_eq_true] at h
    simp [fullGL, unfullGL, unfullG_fullG e h.1, unfullGL_fullGL r h.2]
end

/-- Marshal then Unmarshal of an `EncodedError` value, at byte level, nested payload messages included -/
def throughBytesG (w : Enc) : Option Enc := (desG (heightG (fullG w)) (serG (fullG w))).map unfullG

theorem throughBytesG_id (w : Enc) (hn : oneHid w = true) (hs : SmallG (fullG w)) : throughBytesG w = some w := by
  simp [throughBytesG, desG_serG (fullG w) _ (Nat.le_refl _) hs, unfullG_fullG w hn]

theorem hop_through_bytes_all (P Q : Proc) (vf : Err → Str) (tag : Nat) (e : Err)
    (hn : oneHid (encode P vf e) = true) (hs : SmallG (fullG (encode P vf e))) :
    (throughBytesG (encode P vf e)).bind (decode Q [tag]) = hop P Q vf tag e := by
  simp [throughBytesG_id _ hn hs, hop]

end ErrModel.Proto
