import ErrModel.Transport
import ErrModel.Basic.RedactT
/-
  The formatting engine (errbase/format_error.go), transliterated:
  formatRecursive → entries → formatSingleLineOutput / formatEntries, the `state.Write`
  newline machine, the safe / plain printers on top of the redact contract
  (Basic/RedactT.lean), the SafeFormatError / FormatError methods of every library type and
  the special cases of errutil/format_error_special.go.

  Buffers are token lists (`Toks`: open marker, close marker, plain byte, plain byte labelled
  unsafe); the byte string a caller sees is `unlex` of the final token list.  Plain
  (non-redactable) buffers hold byte tokens only.
-/
namespace ErrModel

def detailSep : Toks := bytesT (b!"\n  | ")
def detailPad : Toks := bytesT (b!"\n  |")          -- detailSep without its last byte
def nlTs : Toks := [nlT]
def colonSpT : Toks := bytesT colonSp

/-! ### strconv.Quote (for `%q` of a mark's message) -/

def hexNib (n : UInt8) : UInt8 := if n < 10 then 48 + n else 87 + n

/-- strconv.Quote: printable runes are kept, `"` and `\` escaped, control characters and
    invalid UTF-8 bytes written as escapes.  (Non-ASCII valid runes are assumed printable.) -/
def quoteBody : (fuel : Nat) → Str → Str
  | 0, _ => []
  | _, [] => []
  | fuel + 1, c :: r =>
    if c = 34 then 92 :: 34 :: quoteBody fuel r
    else if c = 92 then 92 :: 92 :: quoteBody fuel r
    else if c = 7 then 92 :: 97 :: quoteBody fuel r
    else if c = 8 then 92 :: 98 :: quoteBody fuel r
    else if c = 12 then 92 :: 102 :: quoteBody fuel r
    else if c = 10 then 92 :: 110 :: quoteBody fuel r
    else if c = 13 then 92 :: 114 :: quoteBody fuel r
    else if c = 9 then 92 :: 116 :: quoteBody fuel r
    else if c = 11 then 92 :: 118 :: quoteBody fuel r
    else if c < 32 || c = 127 then 92 :: 120 :: hexNib (c / 16) :: hexNib (c % 16) :: quoteBody fuel r
    else if c < 128 then c :: quoteBody fuel r
    else
      let (sz, ok) := decodeRune (c :: r)
      if ok then (c :: r).take sz ++ quoteBody fuel ((c :: r).drop sz)
      else 92 :: 120 :: hexNib (c / 16) :: hexNib (c % 16) :: quoteBody fuel r

def quoteGo (s : Str) : Str := 34 :: quoteBody (s.length + 1) s ++ [34]

/-! ### the per-layer write state (`state.Write`, `detail`, `switchOver`) -/

structure LState where
  buf : Toks := []
  headBuf : Toks := []
  hasDetail : Bool := false
  wantDetail : Bool
  notEmpty : Bool := false
  needSpace : Bool := false
  needNewline : Nat := 0
  multiLine : Bool := false
  deriving Repr, Inhabited

def LState.switchOver (s : LState) : LState :=
  if s.hasDetail then s
  else { s with headBuf := s.buf, buf := [], notEmpty := false, hasDetail := true }

/-- `chunk` = bytes of this call seen since the last flush (not yet in `buf`) -/
def writeLoop : LState → Toks → Toks → LState
  | s, chunk, [] => { s with buf := s.buf ++ chunk }
  | s, chunk, c :: r =>
    if c = nlT then
      let s1 := { s with buf := s.buf ++ chunk, needNewline := s.needNewline + 1, needSpace := false, multiLine := true }
      let s2 := if s1.wantDetail then s1.switchOver else s1
      writeLoop s2 [] r
    else
      let sep := if s.wantDetail then detailSep else nlTs
      let pad := if s.wantDetail then detailPad else []
      let s1 :=
        if s.needNewline > 0 && s.notEmpty then
          { s with buf := s.buf ++ (List.replicate (s.needNewline - 1) pad).flatten ++ sep, needNewline := 0, needSpace := false }
        else if s.needSpace then { s with buf := s.buf ++ [.b 32], needSpace := false }
        else s
      writeLoop { s1 with notEmpty := true } (chunk ++ [c]) r

/-- `(*state).Write` -/
def LState.write (s : LState) (b : Toks) : LState :=
  if b = [] then s else writeLoop s [] b

/-- `(*state).detail()`: only called when details are wanted -/
def LState.detail (s : LState) : LState :=
  let s1 := if s.notEmpty then { s with needNewline := 1 } else s
  s1.switchOver

/-! ### what a layer's formatting method does, as a list of operations -/

inductive POp
  | safe (segs : List SegT)   -- safePrinter.Print/Printf: redact assembles the segments, then Write
  | plain (s : Str)           -- printer.Print / io.WriteString: bytes written as they are
  | detail                    -- p.Detail() returned true
  deriving Repr, Inhabited

def runOp (s : LState) : POp → LState
  | .safe segs => s.write (assembleT segs)
  | .plain b => s.write (bytesU b)   -- a non-SafeFormatter method writes unsafe text
  | .detail => s.detail

structure Entry where
  head : Toks
  details : Toks
  redactable : Bool
  elideShort : Bool
  stack : Option Stack
  elidedStack : Bool
  depth : Nat
  tstr : Str
  deriving Repr, Inhabited

/-- `collectEntry` -/
def collect (s : LState) (bufIsRedactable redOut : Bool) (withDepth : Bool) (depth : Nat) (tstr : Str) : Entry :=
  let hd : Toks × Toks :=
    if s.wantDetail then (if s.hasDetail then (s.headBuf, s.buf) else (s.buf, []))
    else
      let h := s.headBuf
      let h1 := if h ≠ [] && h.getLast? ≠ some nlT && s.buf ≠ [] && s.buf.head? ≠ some nlT then h ++ [nlT] else h
      (h1 ++ s.buf, [])
  let (h, d, r) :=
    if bufIsRedactable then
      (if redOut then (hd.1, hd.2, true) else (bytesT (stripT hd.1), bytesT (stripT hd.2), false))
    else (hd.1, hd.2, false)
  ⟨h, d, r, false, none, false, if withDepth then depth else 0, tstr⟩

/-- `ElideSharedStackTraceSuffix` -/
def elideLoop (new prev : Stack) : Nat → Nat → Nat
  | i + 1, j + 1 =>
    if (new[i + 1]?).map (·.pc) ≠ (prev[j + 1]?).map (·.pc) then i + 1 else elideLoop new prev i j
  | i, _ => i

def elideShared (prev new : Stack) : Stack × Bool :=
  if prev = [] || new = [] then (new, false)
  else
    let i0 := elideLoop new prev (new.length - 1) (prev.length - 1)
    let i := if i0 = 0 then 1 else i0
    (new.take i, i < new.length - 1)

/-! ### the scripts of the library types -/

def lit' (s : String) : SegT := .lit (lit s)

/-- the Any type URL printed for an opaque payload -/
def payUrl (d : Det) (hid : List Enc) : Option Str :=
  match hid with
  | _ :: _ => some (b!"type.googleapis.com/cockroach.errorspb.EncodedError")
  | [] =>
    match d.pay with
    | .none => none
    | .str _ => some (b!"type.googleapis.com/cockroach.errorspb.StringPayload")
    | .strs _ => some (b!"type.googleapis.com/cockroach.errorspb.StringsPayload")
    | .errno .. => some (b!"type.googleapis.com/cockroach.errorspb.ErrnoPayload")
    | .mark .. => some (b!"type.googleapis.com/cockroach.errorspb.MarkPayload")
    | .tags _ => some (b!"type.googleapis.com/cockroach.errorspb.TagsPayload")
    | .http _ => some (b!"type.googleapis.com/cockroach.errors.exthttp.EncodedHTTPCode")
    | .grpc _ => some (b!"type.googleapis.com/cockroach.errors.extgrpc.EncodedGrpcCode")
    | .status .. => some (b!"type.googleapis.com/google.rpc.Status")
    | .testErr => some (b!"type.googleapis.com/cockroach.errorspb.TestError")
    | .raw u _ => some u

/-- the detail block shared by the opaque types -/
def opaqueDetailOps (what : Str) (d : Det) (hid : List Enc) : List POp :=
  [.detail, .safe [.lit (nl :: b!"(opaque error " ++ what ++ b!")")],
   .safe [.lit (nl :: b!"type name: "), .lit d.origType]] ++
  (d.rep.zipIdx.map (fun (x : Str × Nat) =>
    POp.safe [.lit (nl :: b!"reportable "), .lit (natStr x.2), .lit (b!":" ++ [nl]), .lit x.1])) ++
  (match payUrl d hid with
   | some u => [.safe [.lit (nl :: b!"payload type: "), .lit u]]
   | none => [])

/-- SafeFormatError / FormatError of a single-cause wrapper: (operations, elide the inner
    messages (the method returned nil), is the buffer redactable). -/
def wrapScript (k : WrapKind) (detail : Bool) : List POp × Bool × Bool :=
  let det (ops : List POp) : List POp := if detail then .detail :: ops else []
  match k with
  | .withPrefix p => ([.safe [.pre p]], false, true)
  | .withNewMessage m => ([.safe [.pre m]], true, true)
  | .withStack _ => (det [.safe [lit' "attached stack trace"]], false, true)
  | .withHint h => (det [.plain h], false, false)
  | .withDetail h => (det [.plain h], false, false)
  | .withIssueLink url dt =>
    (det ((if url ≠ [] then [POp.safe [lit' "issue: ", .lit url]] else []) ++
          (if dt ≠ [] then [POp.safe [.lit (if url ≠ [] then nlS else []), lit' "detail: ", .lit dt]] else [])), false, true)
  | .withTelemetry keys => (det [.safe [lit' "keys: [", .lit (joinWith sp keys), lit' "]"]], false, true)
  | .withDomain d => (det [.safe [.lit d]], false, true)
  | .withContext tags kinds _ =>
    (det ([POp.safe [lit' "tags: ["]] ++
      (tags.zipIdx.flatMap (fun (x : (Str × Str) × Nat) =>
        (if x.2 > 0 then [POp.safe [lit' ","]] else []) ++ [POp.safe [.preT (tagToks x.1 (kinds.getD x.2 0))]])) ++
      [POp.safe [lit' "]"]]), false, true)
  | .withAssertionFailure => (det [.safe [lit' "assertion failure"]], false, true)
  | .withSafeDetails l =>
    (det ((if l.length ≠ 1 then
            [POp.safe [.lit (natStr l.length), lit' " safe detail", lit' "s", lit' " enclosed"]] else []) ++
          (l.zipIdx.map (fun (x : Str × Nat) =>
            POp.safe [.lit (if l.length ≠ 1 || x.2 > 0 then nlS else []), .lit x.1]))), false, true)
  | .withMark m tys =>
    (det [.safe [.lit (b!"forced error mark" ++ [nl])],
          .safe [.arg (quoteGo m), .lit nlS, .lit ((tys.head?.map (·.fam)).getD []), lit' "::",
                 .lit ((tys.head?.map (·.ext)).getD [])]], false, true)
  | .withHTTPCode n => (det [.safe [lit' "http code: ", .arg (natStr n)]], false, true)
  | .withGrpcCode n => (det [.safe [lit' "gRPC code: ", .lit (codeName n)]], false, true)
  | .opaqueWrapper p d mt hid =>
    ((if p ≠ [] then [POp.safe [.arg p]] else []) ++ (if detail then opaqueDetailOps (b!"wrapper") d hid else []),
     mt = mtFull, true)
  | _ => ([], false, false)      -- not a Formatter: handled by formatSimple / special cases

/-- barrier: Print(smsg); Detail → "-- cause hidden behind barrier\n%+v" -/
def barrierScript (m : BarrierMsg) (hidV : Toks) (detail : Bool) : List POp :=
  [.safe [.pre m.smsg]] ++
    (if detail then [.detail, .safe [.lit (b!"-- cause hidden behind barrier" ++ [nl]), .preT hidV]] else [])

def secondScript (hidV : Toks) (detail : Bool) : List POp :=
  if detail then [.detail, .safe [.lit (b!"secondary error attachment" ++ [nl]), .preT hidV]] else []

/-- joinError: the branches' one-line renderings separated by Print("\n") -/
def joinScript (branches : List Toks) : List POp :=
  branches.zipIdx.flatMap (fun (x : Toks × Nat) =>
    (if x.2 > 0 then [POp.safe [.arg nlS]] else []) ++ [POp.safe [.preT x.1]])

def leafScript (k : LeafKind) (detail : Bool) : Option (List POp) :=
  match k with
  | .leafError msg => some [.safe [.pre msg]]
  | .unimplemented msg url dt =>
    some ([POp.safe [.arg msg]] ++
      (if detail then
        [.detail, .safe [lit' "unimplemented"]] ++
        (if url ≠ [] then [POp.safe [.lit (nl :: b!"issue: "), .lit url]] else []) ++
        (if dt ≠ [] then [POp.safe [.lit (nl :: b!"detail: "), .lit dt]] else [])
       else []))
  | .opaqueLeaf msg d hid =>
    some ([POp.safe [.arg msg]] ++ (if detail then opaqueDetailOps (b!"leaf") d hid else []))
  | _ => none

/-! ### the special cases of errutil.specialCaseFormat, and formatSimple -/

/-- the sentinels whose texts are known to be safe -/
def safeSentinelTexts : List Str := [
  b!"context deadline exceeded", b!"context canceled", b!"invalid argument", b!"permission denied",
  b!"file already exists", b!"file does not exist", b!"file already closed", b!"file type does not support deadline"]

def splitAt2 (s sep : Str) : Option (Str × Str) :=
  go s [] s.length
where go : Str → Str → Nat → Option (Str × Str)
  | _, _, 0 => none
  | [], _, _ => none
  | c :: r, acc, fuel + 1 =>
    if sep.isPrefixOf (c :: r) then some (acc.reverse, (c :: r).drop sep.length)
    else go r (c :: acc) fuel

/-- a frame of a pkg/errors stack as the separate writes Frame.Format performs -/
def frameWrites (f : Frame) : List Str :=
  match splitAt2 f.txt [nl, 9] with
  | some (name, rest) =>
    -- rest = file ":" line ; split at the last ':'
    let rv := rest.reverse
    let lineRev := rv.takeWhile (· ≠ 58)
    let fileRev := (rv.dropWhile (· ≠ 58)).drop 1
    [name, [nl, 9], fileRev.reverse, [58], lineRev.reverse]
  | none => [f.txt]

/-! ### rendering the collected entries -/

/-- a non-redactable buffer (byte tokens only) entering a redactable rendering goes through
    `redact.EscapeBytes` -/
def escIfNeeded (red : Bool) (en : Entry) (s : Toks) : Toks :=
  if !red || en.redactable then s else escapeBytesT (stripT s)

/-- formatSingleLineOutput (entries are stored innermost first) -/
def singleLine (red : Bool) (ents : List Entry) : Toks :=
  ents.reverse.foldl (fun acc en =>
    if en.elideShort then acc
    else
      let acc1 := if acc ≠ [] && en.head ≠ [] then acc ++ colonSpT else acc
      if en.head = [] then acc1 else acc1 ++ escIfNeeded red en en.head) []

/-- `%+v` of a stack with the newlines replaced by the detail separator -/
def stackLines (st : Stack) : Toks :=
  st.flatMap (fun f => detailSep ++ (f.txt.flatMap (fun c => if c = nl then detailSep else [Tok.b c])))

/-- printEntry -/
def printEntry (red : Bool) (en : Entry) : Toks :=
  (if en.head ≠ [] then (if en.head.head? ≠ some nlT then [Tok.b 32] else []) ++ escIfNeeded red en en.head else []) ++
  (if en.details ≠ [] then
    (if en.head = [] && en.details.head? ≠ some nlT then [Tok.b 32] else []) ++ escIfNeeded red en en.details else []) ++
  (match en.stack with
   | some st => bytesT (nl :: b!"  -- stack trace:") ++ stackLines st ++
      (if en.elidedStack then detailSep ++ bytesT (b!"[...repeated from below...]") else [])
   | none => [])

def indentOf (depth : Nat) : Str :=
  (List.range (depth - 1)).flatMap (fun m => if m + 2 = depth then b!"└─ " else [32, 32])

/-- the `Error types:` line -/
def typesLineOf (l : List Str) : Str :=
  nl :: b!"Error types:" ++ (l.zipIdx.flatMap (fun (x : Str × Nat) => b!" (" ++ natStr (x.2 + 1) ++ b!") " ++ x.1))

/-- formatEntries -/
def fullOutput (red : Bool) (ents : List Entry) : Toks :=
  match ents.reverse with
  | [] => []
  | top :: rest =>
    singleLine red ents ++ bytesT (nl :: b!"(1)") ++ printEntry red top ++
    (rest.zipIdx.flatMap (fun (x : Entry × Nat) =>
      bytesT ([nl] ++ indentOf x.1.depth ++ b!"Wraps: (" ++ natStr (x.2 + 2) ++ b!")") ++ printEntry red x.1)) ++
    bytesT (typesLineOf ((top :: rest).map (·.tstr)))

def finish (red detail : Bool) (ents : List Entry) : Toks :=
  if detail then fullOutput red ents else singleLine red ents

/-! ### formatRecursive -/

/-- does `%v` of this error go through this engine (its type's Format method calls FormatError)? -/
def libFormats : Err → Bool
  | .leaf _ k => (match k with
    | .leafError _ | .unimplemented .. | .opaqueLeaf .. => true
    | _ => false)
  | .barrier .. => true
  | .second .. => true
  | .wrap _ k _ => (match k with
    | .pkgWithMessage _ | .pkgWithStack _ | .pathError .. | .linkError .. | .syscallError _ | .fmtWrapError _ | .user .. => false
    | _ => true)
  | .multi _ k _ => (match k with
    | .join | .opaqueLeafCauses .. => true
    | _ => false)

/-- the stdlib sentinels of errutil.specialCaseFormat, as error values -/
def specialSentinels : List Err := [
  .leaf [0] .deadline,
  .leaf [1] (.errorString (b!"context canceled")),
  .leaf [2] (.errorString (b!"invalid argument")),
  .leaf [3] (.errorString (b!"permission denied")),
  .leaf [4] (.errorString (b!"file already exists")),
  .leaf [5] (.errorString (b!"file does not exist")),
  .leaf [6] (.errorString (b!"file already closed")),
  .leaf [7] (.errorString (b!"file type does not support deadline"))]

def runOps (detail : Bool) (ops : List POp) : LState := ops.foldl runOp { wantDetail := detail }

def markElided (l : List Entry) : List Entry := l.map (fun e => { e with elideShort := true })

/-- formatSimple for a wrapper: the prefix extracted from the two Error() texts -/
def simpleWrapOps (eText cText : Str) : List POp × Bool :=
  let pm := extractPrefix eText cText
  ((if pm.1 ≠ [] then [POp.plain pm.1] else []), pm.2 = mtFull)

/-- what a wrapper layer prints: its own SafeFormatError / FormatError method (library
    types), a special case (os.SyscallError, PathError, LinkError), or formatSimple (the
    prefix extracted from the two Error() texts).  (operations, elide the inner messages,
    is the buffer redactable) -/
def wrapOpsOf (k : WrapKind) (detail : Bool) (ct : Str) : List POp × Bool × Bool :=
  match k with
  | .syscallError scn => ([.safe [.lit scn]], false, true)
  | .pathError op path => ([.safe [.lit op, .lit sp, .arg path]], false, true)
  | .linkError op old new => ([.safe [.lit op, .lit sp, .arg old, .lit sp, .arg new]], false, true)
  | .pkgWithMessage _ => ((simpleWrapOps (wrapText k ct) ct).1, (simpleWrapOps (wrapText k ct) ct).2, false)
  | .pkgWithStack _ => ((simpleWrapOps (wrapText k ct) ct).1, (simpleWrapOps (wrapText k ct) ct).2, false)
  | .fmtWrapError _ => ((simpleWrapOps (wrapText k ct) ct).1, (simpleWrapOps (wrapText k ct) ct).2, false)
  | .user .. => ((simpleWrapOps (wrapText k ct) ct).1, (simpleWrapOps (wrapText k ct) ct).2, false)
  | _ => wrapScript k detail

/-- the stack a wrapper layer provides (StackTraceProvider) -/
def wrapStackOf : WrapKind → Option Stack
  | .withStack s => some s
  | .pkgWithStack s => some s
  | _ => none

/-- attach the stack of a StackTraceProvider layer -/
def withStackOf (en : Entry) (ls : Stack) (st : Option Stack) : Entry × Stack :=
  match st with
  | some s =>
    let r := elideShared ls s
    ({ en with stack := some r.1, elidedStack := r.2 }, r.1)
  | none => (en, ls)

mutual
/-- Error(), through the engine where the real method goes through it -/
def errText : Err → Str
  | .leaf _ k => leafText k
  | .barrier _ m _ => stripMarkers m.smsg
  | .wrap _ k c =>
    match k with
    | .withPrefix p =>
      if p = [] then errText c
      else pfx (stripMarkers p) (if libFormats c then stripT (singleLine false (ents false false c true false 0 []).1) else errText c)
    | .opaqueWrapper p _ mt _ =>
      if mt = mtFull then p else if p = [] then errText c
      else pfx p (if libFormats c then stripT (singleLine false (ents false false c true false 0 []).1) else errText c)
    | _ => wrapText k (errText c)
  | .second _ c _ => errText c
  | .multi _ k cs =>
    match k with
    | .join =>   -- redact.Sprint(e).StripMarkers()
      stripT (collect (runOps false (joinScript (rendVL cs))) true true false 0 []).head
    | _ => multiText k (errTextL cs)
def errTextL : List Err → List Str
  | [] => []
  | e :: r => errText e :: errTextL r
/-- the redactable `%v` renderings of the branches of a Join (each a fresh formatting run) -/
def rendVL : List Err → List Toks
  | [] => []
  | e :: r => singleLine true (ents true false e true false 0 []).1 :: rendVL r
/-- formatRecursive: the entries of the sub-tree (innermost first) and the new lastStack -/
def ents (red detail : Bool) : Err → (outer withDepth : Bool) → (depth : Nat) → Stack → List Entry × Stack
  | .leaf id k, outer, wd, depth, ls =>
    let e := Err.leaf id k
    match leafScript k detail with
    | some ops => ([collect (runOps detail ops) true red wd depth e.ty.tstr], ls)
    | none =>
      match k with
      | .pkgFundamental msg st =>
        if !outer then
          -- (*fundamental).Format(s, 'v'): the message, and with %+v its own stack, frame by frame
          let ops := (msg :: (if detail then st.flatMap (fun f => nlS :: frameWrites f) else [])).map POp.plain
          ([collect (runOps detail ops) false red wd depth e.ty.tstr], st)
        else
          let en := collect (runOps detail [.plain msg]) false red wd depth e.ty.tstr
          let r := withStackOf en ls (some st)
          ([r.1], r.2)
      | _ =>
        if isAnyB Full e (specialSentinels.map some) then
          ([collect (runOps detail [.safe [.lit (leafText k)]]) true red wd depth e.ty.tstr], ls)
        else
          match k with
          | .errno _ msg .. => ([collect (runOps detail [.safe [.lit msg]]) true red wd depth e.ty.tstr], ls)
          | _ => ([collect (runOps detail (if leafText k ≠ [] then [.plain (leafText k)] else [])) false red wd depth e.ty.tstr], ls)
  | .barrier id m h, _, wd, depth, ls =>
    let hidV := if detail then fullOutput true (ents true true h true false 0 []).1 else []
    ([collect (runOps detail (barrierScript m hidV detail)) true red wd depth tnBarrier.tstr], ls)
  | .wrap id k c, _, wd, depth, ls =>
    let e := Err.wrap id k c
    let sub := ents red detail c false wd (depth + 1) ls
    let res := wrapOpsOf k detail (errText c)
    let en := collect (runOps detail res.1) res.2.2 red wd depth e.ty.tstr
    let r := withStackOf en sub.2 (wrapStackOf k)
    ((if res.2.1 then markElided sub.1 else sub.1) ++ [r.1], r.2)
  | .second id c s, _, wd, depth, ls =>
    let sub := ents red detail c false wd (depth + 1) ls
    let hidV := if detail then fullOutput true (ents true true s true false 0 []).1 else []
    (sub.1 ++ [collect (runOps detail (secondScript hidV detail)) true red wd depth tnSecondary.tstr], sub.2)
  | .multi id k cs, _, wd, depth, ls =>
    let e := Err.multi id k cs
    let sub := entsL red detail cs (depth + 1) ls
    match k with
    | .join =>
      (markElided sub.1 ++ [collect (runOps detail (joinScript (rendVL cs))) true red wd depth e.ty.tstr], sub.2)
    | .opaqueLeafCauses msg d hid =>
      (markElided sub.1 ++ [collect (runOps detail ((leafScript (.opaqueLeaf msg d hid) detail).getD [])) true red wd depth e.ty.tstr], sub.2)
    | _ =>
      -- the special cases apply to leaves only (cause == nil && len(causes) == 0)
      let t := multiText k (errTextL cs)
      (markElided sub.1 ++ [collect (runOps detail (if t ≠ [] then [.plain t] else [])) false red wd depth e.ty.tstr], sub.2)
/-- the branches of a multi-cause error, left to right, sharing `lastStack` -/
def entsL (red detail : Bool) : List Err → (depth : Nat) → Stack → List Entry × Stack
  | [], _, ls => ([], ls)
  | e :: r, depth, ls =>
    let a := ents red detail e false true depth ls
    let b := entsL red detail r depth a.2
    (a.1 ++ b.1, b.2)
end

/-- FormatError / FormatRedactableError with verb v / s / +v on a whole error, as tokens -/
def renderT (red detail : Bool) (e : Err) : Toks := finish red detail (ents red detail e true false 0 []).1

/-- the bytes the caller sees -/
def render (red detail : Bool) (e : Err) : Str := unlex (renderT red detail e)

/-- `redact.Sprintf("masked error: %+v", e).Redact().StripMarkers()`: what a barrier appends to
    its safe details -/
def vfE (e : Err) : Str :=
  stripT (redactT (assembleT [.lit (b!"masked error: "), .preT (renderT true true e)]))

/-- the `%!verb(type)` notation of an unsupported verb -/
def badVerb (verb : UInt8) (e : Err) : Str := b!"%!" ++ [verb] ++ b!"(" ++ e.ty.tstr ++ b!")"

/-! ### verb dispatch (`formatErrorInternal`, `finishDisplay`) -/

/-- a printf directive: the verb, the flags and whether a width / precision is present -/
structure Spec where
  verb : UInt8
  plus : Bool := false
  minus : Bool := false
  sharp : Bool := false
  space : Bool := false
  zero : Bool := false
  width : Option Nat := none
  prec : Option Nat := none
  deriving Repr, DecidableEq, Inhabited

/-- what ends up in the caller's `fmt.State` -/
inductive VOut
  | direct (s : Str)      -- the buffer copied as is
  | viaFmt (s : Str)      -- `fmt.Fprintf(state, <the same directive>, s)`: fmt applies verb, flags, width, precision to the string
  | goSyntax              -- `%#v`: GoString() / the pretty printer (outside the model)
  | bad (s : Str)         -- the `%!verb(type)` refusal
  deriving Repr, DecidableEq, Inhabited

def vV : UInt8 := 118
def vS : UInt8 := 115
def vQ : UInt8 := 113
def vx : UInt8 := 120
def vX : UInt8 := 88

/-- `finishDisplay` -/
def finishDisplay (red : Bool) (sp : Spec) (buf : Str) : VOut :=
  if red then .direct buf
  else
    let direct := sp.verb = vV || sp.verb = vS
    if !direct || (match sp.width with | some w => w > 0 | none => false) || sp.prec.isSome then .viaFmt buf
    else .direct buf

/-- `formatErrorInternal` -/
def formatVerb (red : Bool) (sp : Spec) (e : Err) : VOut :=
  if sp.verb = vV && sp.plus && !sp.sharp then finishDisplay red sp (render red true e)
  else if !red && sp.verb = vV && sp.sharp then .goSyntax
  else if sp.verb = vS || (sp.verb = vV && !sp.sharp) || (!red && (sp.verb = vx || sp.verb = vX || sp.verb = vQ)) then
    finishDisplay red sp (render red false e)
  else .bad (badVerb sp.verb e)

end ErrModel
