import ErrModel.ProtoEnc
/-
  The `google.protobuf.Any` in `EncodedErrorDetails.full_details` and the payload messages of the
  library (`errorspb.StringPayload`, `StringsPayload`, `ErrnoPayload`, `MarkPayload`, `TagsPayload`,
  `TestError`, `exthttp.EncodedHTTPCode`, `extgrpc.EncodedGrpcCode`, `google.rpc.Status` without details),
  at byte level.
-/
namespace ErrModel.Proto

def urlPrefix : Str := b!"type.googleapis.com/"

def b2n (b : Bool) : Nat := if b then 1 else 0

/-- message name and fields of a payload; `none`: no payload, or one this file does not model
    (a gRPC status that carries details, which the model only counts; an `Any` of a type unknown to the
    process, `.raw`; a nested EncodedError, see `hid`) -/
def payFields : Pay → Option (Str × List Item)
  | .str s => some (b!"cockroach.errorspb.StringPayload", optLd 1 s)
  | .strs l => some (b!"cockroach.errorspb.StringsPayload", l.map (fun s => .ld 1 s))
  | .errno n arch p e ne t tmp =>
    some (b!"cockroach.errorspb.ErrnoPayload",
      optVi 1 n ++ optLd 2 arch ++ optVi 3 (b2n p) ++ optVi 4 (b2n e) ++ optVi 5 (b2n ne) ++ optVi 6 (b2n t) ++ optVi 7 (b2n tmp))
  | .mark msg tys => some (b!"cockroach.errorspb.MarkPayload", optLd 1 msg ++ tys.map (fun t => .ld 2 (serMark t)))
  | .tags l => some (b!"cockroach.errorspb.TagsPayload", l.map (fun kv => .ld 1 (serItems (optLd 1 kv.1 ++ optLd 2 kv.2))))
  | .http n => some (b!"cockroach.errors.exthttp.EncodedHTTPCode", optVi 1 n)
  | .grpc n => some (b!"cockroach.errors.extgrpc.EncodedGrpcCode", optVi 1 n)
  | .testErr => some (b!"cockroach.errorspb.TestError", [])
  | .status c m 0 => some (b!"google.rpc.Status", optVi 1 c ++ optLd 2 m)   -- a status without details
  | _ => none

/-- `types.MarshalAny` followed by `(*Any).Marshal` -/
def serAny (url val : Bytes) : Bytes := serItems (optLd 1 url ++ optLd 2 val)

/-- the bytes of `full_details`: an `Any` that was kept undecoded (`.raw`) as it is, a modelled payload by `payFields` -/
def serPay (p : Pay) : Option Bytes :=
  match p with
  | .raw url val => some (serAny url val)
  | p => (payFields p).map (fun nf => serAny (urlPrefix ++ nf.1) (serItems nf.2))

/-- `(*Any).Unmarshal` -/
def desAny (b : Bytes) : Option (Bytes × Bytes) :=
  match parseItems b.length b with
  | none => none
  | some xs => some ((lastLd xs 1).getD [], (lastLd xs 2).getD [])

theorem desAny_serAny (url val : Bytes) (h1 : url.length < 2 ^ 64) (h2 : val.length < 2 ^ 64) :
    desAny (serAny url val) = some (url, val) := by
  unfold desAny serAny
  rw [parse_own _ (by simp [h1, h2])]
  simp


def mapM' (f : Bytes → Option α) : List Bytes → Option (List α)
  | [] => some []
  | b :: r => match f b, mapM' f r with
    | some x, some xs => some (x :: xs)
    | _, _ => none

/-- `(*TagPayload).Unmarshal`: two optional strings, like an `Any` -/
def desTag (b : Bytes) : Option (Str × Str) := desAny b

/-- the generated `Unmarshal` of the payload message named `name` -/
def desPayNamed (name : Str) (val : Bytes) : Option Pay :=
  match parseItems val.length val with
  | none => none
  | some xs =>
    if name = b!"cockroach.errorspb.StringPayload" then some (.str ((lastLd xs 1).getD []))
    else if name = b!"cockroach.errorspb.StringsPayload" then some (.strs (allLd xs 1))
    else if name = b!"cockroach.errorspb.ErrnoPayload" then
      some (.errno (lastVi xs 1) ((lastLd xs 2).getD []) (lastVi xs 3 != 0) (lastVi xs 4 != 0) (lastVi xs 5 != 0) (lastVi xs 6 != 0) (lastVi xs 7 != 0))
    else if name = b!"cockroach.errorspb.MarkPayload" then
      (mapM' desMark (allLd xs 2)).map (fun tys => .mark ((lastLd xs 1).getD []) tys)
    else if name = b!"cockroach.errorspb.TagsPayload" then (mapM' desTag (allLd xs 1)).map .tags
    else if name = b!"cockroach.errors.exthttp.EncodedHTTPCode" then some (.http (lastVi xs 1))
    else if name = b!"cockroach.errors.extgrpc.EncodedGrpcCode" then some (.grpc (lastVi xs 1))
    else if name = b!"cockroach.errorspb.TestError" then some .testErr
    else if name = b!"google.rpc.Status" then some (.status (lastVi xs 1) ((lastLd xs 2).getD []) (allLd xs 3).length)
    else none

/-- every length and number of the payload fits 64 bits -/
def PaySmall : Pay → Prop
  | .str s => s.length < 2 ^ 64
  | .strs l => ∀ s ∈ l, s.length < 2 ^ 64
  | .errno n arch .. => n < 2 ^ 64 ∧ arch.length < 2 ^ 64
  | .mark msg tys => msg.length < 2 ^ 64 ∧ ∀ t ∈ tys, t.fam.length < 2 ^ 62 ∧ t.ext.length < 2 ^ 62
  | .tags l => ∀ kv ∈ l, kv.1.length < 2 ^ 62 ∧ kv.2.length < 2 ^ 62
  | .http n => n < 2 ^ 64
  | .grpc n => n < 2 ^ 64
  | .status c m _ => c < 2 ^ 64 ∧ m.length < 2 ^ 64
  | _ => True

theorem b2n_lt (b : Bool) : b2n b < 2 ^ 64 := by cases b <;> simp [b2n]

theorem b2n_ne_zero (b : Bool) : (b2n b != 0) = b := by cases b <;> rfl

theorem mapM'_map {f : Bytes → Option α} {g : α → Bytes} : ∀ l : List α, (∀ a ∈ l, f (g a) = some a) →
    mapM' f (l.map g) = some l
  | [], _ => rfl
  | a :: r, h => by
    have ⟨ha, hr⟩ := List.forall_mem_cons.1 h
    simp [mapM', ha, mapM'_map r hr]

/-- two optional strings, like an `ErrorTypeMark`: the same bytes -/
theorem serAny_eq_serMark (k v : Bytes) : serAny k v = serMark ⟨k, v⟩ := by
  unfold serAny serMark markFields optLd; split <;> split <;> rfl

theorem serAny_length_lt (k v : Bytes) (hk : k.length < 2 ^ 62) (hv : v.length < 2 ^ 62) : (serAny k v).length < 2 ^ 64 :=
  serAny_eq_serMark k v ▸ serMark_length_le ⟨k, v⟩ hk hv

theorem payFields_ok {name : Str} {fields : List Item} (p : Pay) (hf : payFields p = some (name, fields)) (hs : PaySmall p) :
    All Item.ok fields := by
  cases p with
  | none | raw => cases hf
  | str | http | grpc => cases hf; simp [show _ < 2 ^ 64 from hs]
  | strs l => cases hf; simpa using show ∀ s ∈ l, _ from hs
  | testErr => cases hf; exact all_nil _
  | status _ _ n => cases n <;> cases hf; simp [hs.1, hs.2]
  | errno => cases hf; simp [-Nat.reducePow, hs.1, hs.2, b2n_lt]   -- `2 ^ 64` stays as `b2n_lt` has it
  | mark _ tys => cases hf; simpa [hs.1] using fun t h => serMark_length_le t (hs.2 t h).1 (hs.2 t h).2
  | tags l => cases hf; simpa [serAny] using fun a b h => serAny_length_lt a b (hs (a, b) h).1 (hs (a, b) h).2

/-- Every modelled payload message is read back as it was written: its bytes parse to the fields written
    (`parse_own`); the name picks its branch of `desPayNamed` by evaluation; each field is read back by the
    lemmas on fields in ProtoEnc.lean. -/
theorem desPay_serPay : (p : Pay) → (name : Str) → (fields : List Item) → payFields p = some (name, fields) → PaySmall p →
    desPayNamed name (serItems fields) = some p := by
  intro p name fields hf hs
  unfold desPayNamed
  rw [parse_own _ (payFields_ok p hf hs)]
  cases p with
  | none | raw => cases hf
  | str | strs | http | grpc => cases hf; simp +decide only [↓reduceIte]; simp
  | status _ _ n => cases n <;> cases hf; simp +decide only [↓reduceIte]; simp
  | testErr => cases hf; decide
  | errno => cases hf; simp +decide only [↓reduceIte]; simp [b2n_ne_zero]
  | mark _ tys =>
    cases hf
    simp +decide only [↓reduceIte]
    simp [mapM'_map tys fun t h => desMark_serMark t (lt_u64_of_lt_u62 (hs.2 t h).1) (lt_u64_of_lt_u62 (hs.2 t h).2)]
  | tags l =>
    cases hf
    simp +decide only [↓reduceIte]
    simp
    exact mapM'_map l fun kv h => desAny_serAny kv.1 kv.2 (lt_u64_of_lt_u62 (hs kv h).1) (lt_u64_of_lt_u62 (hs kv h).2)

/-- a gRPC status without details -/
theorem C_status (c : Nat) (m : Str) (hc : c < 2 ^ 64) (hm : m.length < 2 ^ 64) :
    desPayNamed (b!"google.rpc.Status") (serItems (optVi 1 c ++ optLd 2 m)) = some (.status c m 0) :=
  desPay_serPay (.status c m 0) _ _ rfl ⟨hc, hm⟩

end ErrModel.Proto
