import ErrModel.Basic.Bytes
/-
  C10 "nil stays nil": the nil-guard / forwarding structure of every exported function
  `(… err error …) error` of the repository (regenerated from /repo's source by go/extract ctors
  on every run, see Generated/CtorFacts.lean), its semantics, and a verified checker.
-/
namespace ErrModel.CtorProg

inductive Kind
  /-- the first statement is `if err == nil [|| …] { return nil }` -/
  | guard
  /-- err flows through a pipeline of calls (table index, argument position), innermost first,
      and the result is returned -/
  | forward (chain : List (Nat × Nat))
  /-- anything else -/
  | none
  deriving Repr, DecidableEq

structure Ctor where
  name : Str
  exported : Bool
  param : Nat          -- position of the first error parameter
  kind : Kind
  deriving Repr, DecidableEq

/-- Semantics: is the result nil when the first error parameter is (`argNil`)?  A function the
    extractor could not classify may do anything (`unk`); `none` = out of fuel / outside the table. -/
def eval (tbl : List Ctor) (unk : Nat → Bool → Bool) : Nat → Nat → Bool → Option Bool
  | 0, _, _ => none
  | fuel + 1, i, argNil =>
    match tbl[i]? with
    | none => none
    | some c =>
      match c.kind with
      | .guard => if argNil then some true else some (unk i false)
      | .none => some (unk i argNil)
      | .forward ch =>
        ch.foldl (fun acc step =>
          match acc with
          | none => none
          | some isNil =>
            match tbl[step.1]? with
            | none => none
            | some d => if d.param = step.2 then eval tbl unk fuel step.1 isNil else some (unk step.1 isNil)) (some argNil)

def nilSafe (tbl : List Ctor) : Nat → Nat → Bool
  | 0, _ => false
  | fuel + 1, i =>
    match tbl[i]? with
    | none => false
    | some c =>
      match c.kind with
      | .guard => true
      | .none => false
      | .forward ch => ch.all (fun step =>
          match tbl[step.1]? with
          | none => false
          | some d => d.param = step.2 && nilSafe tbl fuel step.1)

/-- soundness: an accepted function returns nil on a nil error whatever the unclassified functions do -/
theorem nilSafe_sound (tbl : List Ctor) (unk : Nat → Bool → Bool) :
    ∀ (fuel i : Nat), nilSafe tbl fuel i = true → eval tbl unk fuel i true = some true := by
  intro fuel i h
  fun_induction nilSafe tbl fuel i with
  | case1 | case2 | case4 => cases h   -- no fuel, no entry, unclassified: not accepted
  | case3 fuel i c hc hk => simp [eval, hc, hk]   -- a nil guard
  | case5 fuel i c hc ch hk ih =>   -- a forwarding pipeline
    unfold eval
    simp only [hc, hk]
    -- a pipeline of accepted calls hands nil on
    refine foldl_silent fun step hstep => ?_
    have hs := List.all_eq_true.mp h step hstep
    split at hs
    · cases hs
    · simp only [Bool.and_eq_true, decide_eq_true_eq] at hs
      simp only [*, if_true, ih step hs.2]

def fuel : Nat := 12

def indexOf (tbl : List Ctor) (n : Str) : Option Nat := tbl.findIdx? (fun c => c.name = n)

/-- every exported function outside `exempt` is accepted -/
def checkAll (tbl : List Ctor) (exempt : List Str) : Bool :=
  (List.range tbl.length).all (fun i =>
    match tbl[i]? with
    | none => true
    | some c => !c.exported || exempt.contains c.name || nilSafe tbl fuel i)

def hasAll (tbl : List Ctor) (names : List Str) : Bool :=
  names.all (fun n => (indexOf tbl n).isSome)

theorem hasAll_length_first (tbl : List Ctor) (names : List Str) :
    hasAll tbl names = names.all (fun n => tbl.any (fun c => c.name.length == n.length && c.name == n)) := by
  simp only [hasAll, indexOf, List.findIdx?_isSome, ← Bool.beq_eq_decide_eq, ← beq_length_first]

end ErrModel.CtorProg
