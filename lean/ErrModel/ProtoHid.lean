import ErrModel.ProtoHopAll
/-
  What EncodeError produces carries at most one nested message per layer.
-/
namespace ErrModel.Proto

mutual
/-- the opaque stand-ins inside the error (received from the network) carry at most one nested
    message per layer; locally built layers always do -/
def hidOK : Err → Bool
  | .leaf _ k => match k with
    | .opaqueLeaf _ _ hid => oneHidH hid
    | _ => true
  | .barrier _ _ h => hidOK h
  | .wrap _ k c => (match k with
    | .opaqueWrapper _ _ _ hid => oneHidH hid
    | _ => true) && hidOK c
  | .second _ c s => hidOK c && hidOK s
  | .multi _ k cs => (match k with
    | .opaqueLeafCauses _ _ hid => oneHidH hid
    | _ => true) && hidOKL cs
def hidOKL : List Err → Bool
  | [] => true
  | e :: r => hidOK e && hidOKL r
end

/- Every kind's node is an `if` between two nodes without nested message (`apply_ite`), except the stand-in's,
   which carries its own (`exact h`).  `encode` is unfolded once, before the split over the kinds, and the `if`
   is not split: unfolding and splitting kind by kind costs twice as much to check. -/
mutual
theorem oneHid_encode (P : Proc) (vf : Err → Str) : (e : Err) → hidOK e = true → oneHid (encode P vf e) = true
  | .leaf id k, h => by
    unfold encode
    cases k <;> simp only [apply_ite oneHid, oneHid, oneHidH, oneHidL, Bool.and_self, Bool.and_true, ite_self]
    exact h
  | .barrier id m hd, h => by
    have ih := oneHid_encode P vf hd h
    simp only [encode, apply_ite oneHid, oneHid, oneHidH, oneHidL, ih, Bool.and_self, ite_self]
  | .wrap id k c, h => by
    simp only [hidOK, Bool.and_eq_true] at h
    have ih := oneHid_encode P vf c h.2
    unfold encode
    cases k <;> simp only [apply_ite oneHid, oneHid, oneHidH, ih, Bool.and_self, Bool.and_true, ite_self]
    exact h.1
  | .second id c s, h => by
    simp only [hidOK, Bool.and_eq_true] at h
    have ih1 := oneHid_encode P vf c h.1
    have ih2 := oneHid_encode P vf s h.2
    simp only [encode, apply_ite oneHid, oneHid, oneHidH, ih1, ih2, Bool.and_self, ite_self]
  | .multi id k cs, h => by
    simp only [hidOK, Bool.and_eq_true] at h
    have ih := oneHidL_encodeList P vf cs h.2
    unfold encode
    cases k <;> simp only [oneHid, oneHidH, ih, Bool.and_self, Bool.and_true]
    exact h.1
theorem oneHidL_encodeList (P : Proc) (vf : Err → Str) : (cs : List Err) → hidOKL cs = true → oneHidL (encodeList P vf cs) = true
  | [], _ => by simp [encodeList, oneHidL]
  | e :: r, h => by
    simp only [hidOKL, Bool.and_eq_true] at h
    simp [encodeList, oneHidL, oneHid_encode P vf e h.1, oneHidL_encodeList P vf r h.2]
end

end ErrModel.Proto
