import ErrModel.Basic.Redact
/-
  The redact buffer contract at TOKEN level.

  A redactable string is handled as a list of tokens (`Tok`: open marker, close marker,
  plain byte, plain byte labelled unsafe) instead of bytes.  This is the representation the
  theorems about marker well-formedness and redaction are proved on: concatenation of token
  lists never creates a marker (at byte level two pieces could spell one across their
  junction), so the properties compose.  The byte string is `unlex` of the tokens;
  `lex (unlex t) = t`, labels aside, whenever no three adjacent plain bytes of `t` spell a
  marker (`NoSpell`, `lex_unlex_erase` in Proofs/LexUnlex.lean), which is the only place where
  bytes and tokens differ.

  The functions mirror Basic/Redact.lean (the validated transliteration of redact v1.1.5);
  the finished part of the buffer is a token list, the part written since the last escape
  is still raw bytes (`pend`), exactly as `buf[validUntil:]` in the Go code.
-/
namespace ErrModel

abbrev Toks := List Tok

def bytesT (s : Str) : Toks := s.map Tok.b

/-- bytes written from an unsafe source (ghost label, see `Tok.u`); newline bytes are structure,
    not content: they are what an unsafe text legitimately shows outside markers -/
def bytesU (s : Str) : Toks := s.map (fun c => if c = nl then Tok.b c else Tok.u c)

/-- the tokens of a stored redactable string: what is between markers counts as unsafe -/
def relabel : Bool → Toks → Toks
  | _, [] => []
  | _, .op :: r => .op :: relabel true r
  | _, .cl :: r => .cl :: relabel false r
  | st, .b c :: r => (if st then Tok.u c else Tok.b c) :: relabel st r
  | st, .u c :: r => .u c :: relabel st r

def lexL (s : Str) : Toks := relabel false (lex s)

def qT : Tok := .b qmark
def nlT : Tok := .b nl

/-- `escLoop` on tokens: `acc` is everything produced so far (the finished buffer
    included: the loop looks at its last token to elide an empty enclosure). -/
def escLoopT (brk : Bool) : Toks → Str → Toks
  | acc, [] => acc
  | acc, 0xE2 :: 0x80 :: 0xB9 :: r => escLoopT brk (acc ++ [qT]) r
  | acc, 0xE2 :: 0x80 :: 0xBA :: r => escLoopT brk (acc ++ [qT]) r
  | acc, c :: r =>
    if brk && c = nl then
      let acc1 := if acc.getLast? = some .op then acc.dropLast else acc ++ [.cl]
      let run := r.takeWhile (· = nl)
      let rest := r.dropWhile (· = nl)
      have : rest.length < (c :: r).length := by
        have h := dropWhile_length_le (· = nl) r
        show (r.dropWhile (· = nl)).length < (c :: r).length
        simp only [List.length_cons]; omega
      escLoopT brk (acc1 ++ nlT :: bytesT run ++ [.op]) rest
    else escLoopT brk (acc ++ [if brk then Tok.u c else Tok.b c]) r   -- unsafe mode (brk): labelled
termination_by _ c => c.length

structure RBT where
  done : Toks          -- buf[:validUntil], escaped and final
  pend : Str           -- buf[validUntil:], raw
  mode : Mode
  opened : Bool
  deriving Repr, Inhabited

def RBT.reset : RBT := ⟨[], [], .unsafeE, false⟩

/-- InternalEscapeBytes(buf, validUntil, brk): escape the pending bytes; a trailing invalid
    UTF-8 byte of the whole buffer gets a `?` -/
def RBT.escapeToEnd (r : RBT) (brk : Bool) : RBT :=
  let res := escLoopT brk r.done r.pend
  let res1 := if lastRuneInvalid (unlex r.done ++ r.pend) then res ++ [qT] else res
  { r with done := res1, pend := [] }

/-- only called with nothing pending -/
def RBT.endRedactable (r : RBT) : RBT :=
  if r.done = [] then r
  else if r.done.getLast? = some .op then { r with done := r.done.dropLast, opened := false }
  else { r with done := r.done ++ [.cl], opened := false }

def RBT.startRedactable (r : RBT) : RBT :=
  if r.done.getLast? = some .cl then { r with done := r.done.dropLast, opened := true }
  else { r with done := r.done ++ [.op], opened := true }

/-- raw mode: what is written is a redactable string, final as it is.  Unsafe mode with no enclosure
    open: `pend := s` drops nothing, `r.pend` being empty there in every reachable state (the buffer is
    fresh, or `setMode` has just escaped what was pending). -/
def RBT.write (r : RBT) (s : Str) : RBT :=
  match r.mode with
  | .raw => { r with done := r.done ++ lexL s }
  | .unsafeE => (if r.opened then { r with pend := r.pend ++ s } else { r.startRedactable with pend := s })
  | .safeE => { r with pend := r.pend ++ s }

def RBT.setMode (r : RBT) (m : Mode) : RBT :=
  if r.mode = m then r else
  let r1 := if r.mode = .unsafeE || r.mode = .safeE then r.escapeToEnd (r.mode = .unsafeE) else r
  let r2 := if r1.opened then r1.endRedactable else r1
  { r2 with mode := m }

def RBT.finalize (r : RBT) : RBT :=
  let r1 := if r.mode = .raw then r else r.escapeToEnd (r.mode = .unsafeE)
  if r1.opened then r1.endRedactable else r1

/-- pieces of a Sprintf at token level: `preT` is an already redactable string that is
    available as tokens (the rendering of a nested error) -/
inductive SegT
  | lit (s : Str) | arg (s : Str) | pre (s : Str) | preT (t : Toks)
  deriving Repr, DecidableEq, Inhabited

def SegT.ofSeg : Seg → SegT
  | .lit s => .lit s
  | .arg s => .arg s
  | .pre s => .pre s

def RBT.writeToks (r : RBT) (t : Toks) : RBT := { r with done := r.done ++ t }

def RBT.seg (r : RBT) : SegT → RBT
  | .lit s => (r.setMode .safeE).write s
  | .arg s => (((r.setMode .unsafeE).write s).setMode .safeE)
  | .pre s => (((r.setMode .raw).write s).setMode .safeE)
  | .preT t => (((r.setMode .raw).writeToks t).setMode .safeE)

/-- redact.Sprintf for a sequence of pieces, as tokens -/
def assembleT (segs : List SegT) : Toks :=
  ((segs.foldl RBT.seg (RBT.reset.setMode .safeE)).finalize).done

/-- redact.EscapeBytes, as tokens -/
def escapeBytesT (s : Str) : Toks :=
  let res := escLoopT true [.op] s
  (if lastRuneInvalid (mOpen ++ s) then res ++ [qT] else res) ++ [.cl]

/-! ### Redact / StripMarkers on tokens -/

def stripT (t : Toks) : Str := stripToks t

def redactedT : Toks := [.op, .b 0xC3, .b 0x97, .cl]   -- ‹×›

/-- `RedactableString.Redact` on tokens -/
def redactT (t : Toks) : Toks :=
  match t with
  | [] => []
  | .op :: r =>
    match h : spanBytes r with
    | (_, .cl :: r') =>
      have : r'.length < (Tok.op :: r).length := by
        have := spanBytes_len r; rw [h] at this; simp at this ⊢; omega
      redactedT ++ redactT r'
    | _ => .op :: redactT r
  | .cl :: r => .cl :: redactT r
  | .b x :: r => .b x :: redactT r
  | .u x :: r => .u x :: redactT r
termination_by t.length

end ErrModel
