import ErrModel.Basic.Lemmas
/-
  Byte strings.  Go strings are byte strings; the properties quantify over
  invalid UTF-8, NUL and the redaction-marker runes, so `List UInt8` is the
  honest carrier.  Core Lean only.  (Imports Basic/Lemmas, which nothing here uses, so that every
  module of the development has those general facts.)
-/
namespace ErrModel

abbrev Str := List UInt8

/-- Literal helper: the UTF-8 bytes of a Lean string (run time only; does not
    reduce in the kernel — use `b!"…"` for constants that proofs compute with). -/
def lit (s : String) : Str := s.toUTF8.toList

open Lean in
/-- `b!"abc"` elaborates to the explicit byte list `[97, 98, 99]`. -/
macro "b!" s:str : term => do
  let bs := s.getString.toUTF8.toList
  let elems ← bs.toArray.mapM (fun b => `(($(quote b.toNat) : UInt8)))
  `(([ $elems,* ] : List UInt8))

def colonSp : Str := [58, 32]      -- ": "
def nl : UInt8 := 10
def nlS : Str := [10]

/-- `strings.HasSuffix`. -/
def hasSuffix (s suf : Str) : Bool := suf.isSuffixOf s

/-- `s[:len(s)-len(suf)]` when `suf` is a suffix of `s`. -/
def stripSuffix? (s suf : Str) : Option Str :=
  if suf.isSuffixOf s then some (s.take (s.length - suf.length)) else none

theorem stripSuffix?_eq_some {s suf p : Str} : stripSuffix? s suf = some p ↔ s = p ++ suf := by
  unfold stripSuffix?
  constructor
  · intro h
    split at h
    · next hs =>
      obtain ⟨t, rfl⟩ := List.isSuffixOf_iff_suffix.mp hs
      simpa [eq_comm] using h
    · cases h
  · rintro rfl
    simp [List.isSuffixOf_iff_suffix.mpr (List.suffix_append p suf)]

theorem stripSuffix?_append (p suf : Str) : stripSuffix? (p ++ suf) suf = some p := stripSuffix?_eq_some.mpr rfl

theorem stripSuffix?_none {s suf : Str} (h : stripSuffix? s suf = none) : ¬ suf <:+ s :=
  fun ⟨_, ht⟩ => nomatch (stripSuffix?_eq_some.mpr ht.symm).symm.trans h

/-- `strings.Join(xs, sep)`. -/
def joinWith (sep : Str) : List Str → Str
  | [] => []
  | [x] => x
  | x :: y :: r => x ++ sep ++ joinWith sep (y :: r)

/-- comparing the lengths first: the names of a generated table share long prefixes, and the kernel is slow at
    walking two byte lists in step -/
theorem beq_length_first (a b : Str) : (a == b) = (a.length == b.length && a == b) := by
  cases h : a == b with
  | false => exact (Bool.and_false _).symm
  | true => cases eq_of_beq h; rw [Bool.and_true]; exact (decide_eq_true rfl).symm

def noNl (s : Str) : Bool := !s.contains nl

end ErrModel
