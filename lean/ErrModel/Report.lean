import ErrModel.Engine
import ErrModel.Accessors
import ErrModel.Shape
/-
  report.BuildSentryReport (report/report.go), withstack.GetReportableStackTrace and
  GetOneLineSource (withstack/reportable.go, one_line_source.go), transliterated.
  `trim` = the source-directory prefixes of the Go build context (GOROOT/src, GOPATH/src):
  an input, like the captured stack frames.
-/
namespace ErrModel

/-! ### small string helpers (strings.TrimSpace / Split / LastIndexByte / Atoi on ASCII) -/

def isSpaceB (c : UInt8) : Bool := c = 32 || c = 9 || c = 10 || c = 11 || c = 12 || c = 13

def trimSpace (s : Str) : Str := ((s.dropWhile isSpaceB).reverse.dropWhile isSpaceB).reverse

/-- the part after the last `c` (the whole string when there is none) -/
def afterLast (c : UInt8) (s : Str) : Str := (s.reverse.takeWhile (· ≠ c)).reverse

/-- `(s[:i], s[i+1:])` for the last index of `c`, none when absent -/
def splitLast (c : UInt8) (s : Str) : Option (Str × Str) :=
  if s.contains c then
    some (((s.reverse.dropWhile (· ≠ c)).drop 1).reverse, afterLast c s)
  else none

def firstLine (s : Str) : Str := s.takeWhile (· ≠ nl)

/-- strconv.Atoi, 0 on failure (decimal digits with an optional sign) -/
def atoiDigits : Str → Nat → Option Nat
  | [], acc => some acc
  | c :: r, acc => if 48 ≤ c && c ≤ 57 then atoiDigits r (acc * 10 + (c.toNat - 48)) else none

def atoi (s : Str) : Int :=
  match s with
  | [] => 0
  | 45 :: r => if r = [] then 0 else (match atoiDigits r 0 with | some n => - (n : Int) | none => 0)
  | 43 :: r => if r = [] then 0 else (match atoiDigits r 0 with | some n => (n : Int) | none => 0)
  | _ => (match atoiDigits s 0 with | some n => (n : Int) | none => 0)

def intStr (i : Int) : Str := lit (toString i)

/-- report.lastPathComponent -/
def lastPathComponent (s : Str) : Str := afterLast 47 s

/-- filepath.Base on slash-separated paths -/
def fileBase (s : Str) : Str :=
  if s = [] then b!"."
  else
    let t := (s.reverse.dropWhile (· = 47)).reverse
    if t = [] then b!"/" else afterLast 47 t

/-! ### parsePrintedStack -/

structure RFrame where
  function : Str
  module : Str
  filename : Str
  absPath : Str
  lineno : Int
  deriving Repr, DecidableEq, Inhabited

def trimPath (trim : List Str) (f : Str) : Str :=
  match trim.find? (fun p => p.isPrefixOf f && p ≠ []) with
  | some p => f.drop p.length
  | none => f

/-- replace every "·" (C2 B7) by "." -/
def replMiddot : Str → Str
  | 0xC2 :: 0xB7 :: r => 46 :: replMiddot r
  | c :: r => c :: replMiddot r
  | [] => []

/-- withstack.functionName -/
def functionName (fn : Str) : Str × Str :=
  match splitLast 46 fn with
  | some (pack, name) => (pack, replMiddot name)
  | none => ([], replMiddot fn)

/-- one entry: (file, line, fnName) from lines at i, and whether a second line was consumed -/
def parseEntry (fnLine : Str) (next : Option Str) : Str × Int × Bool :=
  match next with
  | some l =>
    if l.head? = some 9 then
      let fl := trimSpace l
      match splitLast 58 fl with
      | some (file, ln) => (file, atoi ln, true)
      | none => (fl, 0, true)
    else ([], 0, false)
  | none => ([], 0, false)

def mkFrame (trim : List Str) (fnName file : Str) (line : Int) : RFrame :=
  if fnName = b!"unknown" then ⟨fnName, b!"unknown", trimPath trim file, file, line⟩
  else ⟨(functionName fnName).2, (functionName fnName).1, trimPath trim file, file, line⟩

def parseLines (trim : List Str) : (fuel : Nat) → List Str → List RFrame
  | 0, _ => []
  | _, [] => []
  | fuel + 1, fnLine :: rest =>
    let r := parseEntry fnLine rest.head?
    mkFrame trim fnLine r.1 r.2.1 :: parseLines trim fuel (if r.2.2 then rest.drop 1 else rest)

/-- withstack.parsePrintedStack (frames already reversed: oldest call first) -/
def parsePrintedStack (trim : List Str) (st : Str) : List RFrame :=
  let lines := splitNl (trimSpace st)
  (parseLines trim lines.length lines).reverse

/-- withstack.GetReportableStackTrace -/
def reportableStack (P : Proc) (trim : List Str) (e : Err) : Option (List RFrame) :=
  -- a printed stack without any frame is no stack trace: parsed, it would give one blank frame (finding D15)
  (layerStackStr P e).bind (fun st => if trimSpace st = [] then none else some (parsePrintedStack trim st))

/-- getOneLineSourceFromPrintedStack: (file, line) -/
def oneLineOfPrinted (st : Str) : Str × Int :=
  match splitNl (trimSpace st) with
  | l0 :: rest => let r := parseEntry l0 rest.head?; (fileBase r.1, r.2.1)
  | [] => (b!".", 0)

/-- the printed first frame, for a StackTraceProvider (st[:1]) -/
def firstFramePrinted : Err → Option Str
  | .wrap _ (.withStack st) _ => some (printStack (st.take 1))
  | .wrap _ (.pkgWithStack st) _ => some (printStack (st.take 1))
  | .leaf _ (.pkgFundamental _ st) => some (printStack (st.take 1))
  | _ => none

def isProvider : Err → Bool
  | .wrap _ (.withStack _) _ => true
  | .wrap _ (.pkgWithStack _) _ => true
  | .leaf _ (.pkgFundamental ..) => true
  | _ => false

def providerStack : Err → Stack
  | .wrap _ (.withStack st) _ => st
  | .wrap _ (.pkgWithStack st) _ => st
  | .leaf _ (.pkgFundamental _ st) => st
  | _ => []

/-- the current-level step of GetOneLineSource -/
def oneLineHere (P : Proc) (e : Err) : Option (Str × Int) :=
  if isProvider e then
    (if providerStack e = [] then none else some (oneLineOfPrinted (printStack ((providerStack e).take 1))))
  else (layerStackStr P e).map oneLineOfPrinted

/-- withstack.GetOneLineSource: the innermost layer (along UnwrapOnce) that has a source -/
def oneLineSource (P : Proc) : Err → Option (Str × Int)
  | .wrap id k c =>
    match oneLineSource P c with
    | some r => some r
    | none => oneLineHere P (.wrap id k c)
  | .second id c s =>
    match oneLineSource P c with
    | some r => some r
    | none => oneLineHere P (.second id c s)
  | e => oneLineHere P e

/-! ### the report -/

mutual
/-- report.visitAllMulti: the layer, its single cause, then its multiple causes -/
def visitAll : Err → List Err
  | .leaf id k => [.leaf id k]
  | .barrier id m h => [.barrier id m h]
  | .wrap id k c => .wrap id k c :: visitAll c
  | .second id c s => .second id c s :: visitAll c
  | .multi id k cs => .multi id k cs :: visitAllL cs
def visitAllL : List Err → List Err
  | [] => []
  | e :: r => visitAll e ++ visitAllL r
end

structure Exc where
  module : Str
  type : Str
  value : Str
  frames : Option (List RFrame)
  deriving Repr, DecidableEq, Inhabited

structure Report where
  message : Str
  exceptions : List Exc
  types : Str
  deriving Repr, DecidableEq, Inhabited

structure Layer where
  origType : Str
  mark : TMark
  details : List Str
  stack : Option (List RFrame)
  deriving Repr, Inhabited

def layerOf (P : Proc) (vf : Err → Str) (trim : List Str) (e : Err) : Layer :=
  ⟨origTypeName e, typeMark P e, layerDetails P vf e, reportableStack P trim e⟩

def typesLine (l : Layer) : Str :=
  l.origType ++ b!" (" ++ (if l.origType ≠ l.mark.fam then l.mark.fam else b!"*") ++ b!"::" ++ l.mark.ext ++ b!")" ++ [nl]

structure Acc where
  msg : Str := []
  sep : Str := []
  extraNum : Nat := 1
  excs : List Exc := []
  firstDetail : Str
  deriving Inhabited

def redactedMarkerStr : Str := [0xC3, 0x97]

/-- `file:line` and function of the innermost call of a reportable stack (its last frame) -/
def topFile (frames : List RFrame) : Str := (frames.getLast?.map (fun f => lastPathComponent f.filename)).getD []
def topFn (frames : List RFrame) : Str := (frames.getLast?.map (·.function)).getD []
def topLine (frames : List RFrame) : Int := (frames.getLast?.map (·.lineno)).getD 0

/-- the Type field of a layer's exception -/
def excType (frames : List RFrame) : Str :=
  let ty0 := (if topFile frames ≠ [] then topFile frames ++ b!":" ++ intStr (topLine frames) ++ b!" " else []) ++
    (if topFn frames ≠ [] then b!"(" ++ topFn frames ++ b!")" else [])
  if ty0 = [] then b!"<unknown error>" else ty0

def counterStr (n : Nat) : Str := b!"(" ++ natStr n ++ b!")"

/-- the composition line of one layer -/
def lineOf (a : Acc) (l : Layer) : Str :=
  let short := lastPathComponent l.origType
  match l.stack with
  | some frames =>
    (if frames ≠ [] then topFile frames ++ b!":" ++ intStr (topLine frames) ++ b!": " else []) ++ short ++
      (if a.excs = [] then b!" (top exception)" else b!" " ++ counterStr a.extraNum)
  | none =>
    let d := (l.details.head?.map firstLine).getD []
    if d ≠ [] then short ++ b!": " ++ d else short

/-- the exception a layer contributes: one when it carries a stack trace -/
def excOf (module : Str) (a : Acc) (l : Layer) : List Exc :=
  match l.stack with
  | some frames =>
    [⟨module, (if a.excs = [] then [] else counterStr a.extraNum ++ b!" ") ++ excType frames,
      lastPathComponent l.origType, some frames⟩]
  | none => []

/-- one iteration of the composition loop (innermost layer first) -/
def compStep (module : Str) (a : Acc) (l : Layer) : Acc :=
  { msg := a.msg ++ (a.sep ++ lineOf a l),
    sep := nlS,
    extraNum := if l.stack.isSome && a.excs ≠ [] then a.extraNum + 1 else a.extraNum,
    excs := a.excs ++ excOf module a l,
    firstDetail :=
      if l.stack.isNone && a.firstDetail = [] then (l.details.head?.map firstLine).getD [] else a.firstDetail }

/-- the layers of the report, outermost first -/
def reportLayers (P : Proc) (vf : Err → Str) (trim : List Str) (e : Err) : List Layer :=
  (visitAll e).map (layerOf P vf trim)

/-- the source prefix of the message: `file:line: ` of the innermost recorded stack trace -/
def srcPrefix (P : Proc) (e : Err) : Str :=
  match oneLineSource P e with
  | some (f, l) => f ++ b!":" ++ intStr l ++ b!": "
  | none => []

/-- the redacted verbose rendering: `redact.Sprintf("%+v", err).Redact().StripMarkers()` -/
def verboseRedacted (e : Err) : Str := stripT (redactT (assembleT [.preT (renderT true true e)]))

def compHeader : Str := nl :: b!"-- report composition:" ++ [nl]

def initAcc (P : Proc) (e : Err) : Acc :=
  { msg := srcPrefix P e ++ verboseRedacted e ++ compHeader,
    firstDetail := if verboseRedacted e ≠ redactedMarkerStr then firstLine (verboseRedacted e) else [] }

/-- the composition loop: innermost layer first -/
def compLoop (P : Proc) (vf : Err → Str) (trim : List Str) (e : Err) : Acc :=
  (reportLayers P vf trim e).reverse.foldl (compStep (getDomain e)) (initAcc P e)

def finalMsg (a : Acc) : Str :=
  if a.extraNum > 1 then a.msg ++ nl :: b!"(check the extra data payloads)" else a.msg

/-- the exceptions: Sentry's order (reversed); a synthetic one when no layer has a stack;
    otherwise the first collected one is decorated with the leaf type and the first detail line -/
def finalExcs (module leafType : Str) (a : Acc) : List Exc :=
  match a.excs with
  | [] => [⟨module, leafType, a.firstDetail, none⟩]
  | first :: rest =>
    let wrapped := first.value ≠ leafType
    let v := leafType ++ (if a.firstDetail ≠ [] then b!": " ++ a.firstDetail else []) ++
      (if wrapped then nl :: b!"via " ++ first.value else [])
    ({ first with value := v } :: rest).reverse

def leafTypeOf (ls : List Layer) : Str := (ls.getLast?.map (fun l => lastPathComponent l.origType)).getD []

/-- report.BuildSentryReport for a non-nil error -/
def buildReport (P : Proc) (vf : Err → Str) (trim : List Str) (e : Err) : Report :=
  ⟨finalMsg (compLoop P vf trim e),
   finalExcs (getDomain e) (leafTypeOf (reportLayers P vf trim e)) (compLoop P vf trim e),
   (reportLayers P vf trim e).reverse.flatMap typesLine⟩

end ErrModel
