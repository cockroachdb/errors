import ErrModel.ProtoPay
/-
  `EncodedErrorDetails` with its `full_details` payload, and with it the whole `EncodedError`
  whose payloads are the library's flat payload messages.
-/
namespace ErrModel.Proto

/-- the `full_details` field, when the payload is one of the modelled messages -/
def anyItems (p : Pay) : List Item :=
  match payFields p with
  | some nf => [.ld 4 (serAny (urlPrefix ++ nf.1) (serItems nf.2))]
  | none => []

def detItemsP (d : Det) : List Item :=
  optLd 1 d.origType ++ [.ld 2 (serMark d.mark)] ++ d.rep.map (fun s => .ld 3 s) ++ anyItems d.pay

/-- `(*EncodedErrorDetails).Marshal` -/
def serDetP (d : Det) : Bytes := serItems (detItemsP d)

def stripPrefix? (p s : Bytes) : Option Bytes :=
  if s.take p.length = p then some (s.drop p.length) else none

/-- `(*EncodedErrorDetails).Unmarshal` followed by `types.UnmarshalAny` of a known payload type -/
def detOfBytesP (b : Option Bytes) : Option Det :=
  match parseItems (b.getD []).length (b.getD []) with
  | none => none
  | some xs =>
    match desMark ((lastLd xs 2).getD []) with
    | none => none
    | some mk =>
      match lastLd xs 4 with
      | none => some ⟨(lastLd xs 1).getD [], mk, allLd xs 3, .none⟩
      | some a =>
        match desAny a with
        | none => none
        | some (url, val) =>
          match stripPrefix? urlPrefix url with
          | none => none
          | some name =>
            match desPayNamed name val with
            | none => none
            | some p => some ⟨(lastLd xs 1).getD [], mk, allLd xs 3, p⟩


/-- the payload is absent or one of the modelled messages, and every length fits 64 bits -/
def PayOK (p : Pay) : Prop :=
  p = .none ∨ ∃ nf, payFields p = some nf ∧ PaySmall p ∧ (serItems nf.2).length < 2 ^ 64 ∧
    (urlPrefix ++ nf.1).length < 2 ^ 64 ∧ (serAny (urlPrefix ++ nf.1) (serItems nf.2)).length < 2 ^ 64

def DetSmallP (d : Det) : Prop :=
  d.origType.length < 2 ^ 64 ∧ d.mark.fam.length < 2 ^ 62 ∧ d.mark.ext.length < 2 ^ 62 ∧ (∀ s ∈ d.rep, s.length < 2 ^ 64) ∧
  (serDetP d).length < 2 ^ 64 ∧ PayOK d.pay

theorem stripPrefix?_append (p s : Bytes) : stripPrefix? p (p ++ s) = some s := by
  simp [stripPrefix?]

theorem anyItems_none : anyItems .none = [] := rfl

theorem anyItems_some {p : Pay} {nf : Str × List Item} (h : payFields p = some nf) :
    anyItems p = [.ld 4 (serAny (urlPrefix ++ nf.1) (serItems nf.2))] := by
  simp [anyItems, h]

theorem anyItems_inRange (p : Pay) : All Item.inRange (anyItems p) := by
  unfold anyItems; split <;> simp

theorem detOfBytesP_serDetP (d : Det) (h : DetSmallP d) : detOfBytesP (some (serDetP d)) = some d := by
  obtain ⟨_, h2, h3, _, hl, h6⟩ := h
  have hmk := desMark_serMark d.mark (lt_u64_of_lt_u62 h2) (lt_u64_of_lt_u62 h3)
  rw [detOfBytesP, Option.getD_some, serDetP, parse_own _ (all_ok_of_small hl (by simp [detItemsP, anyItems_inRange])),
    detItemsP]
  rcases h6 with hn | ⟨nf, hnf, hps, hv, hu, _⟩
  · obtain ⟨ot, mk, rep, pay⟩ := d
    cases hn
    simp [anyItems_none, hmk]
  · rw [anyItems_some hnf]
    simp [hmk, desAny_serAny _ _ hu hv, stripPrefix?_append, desPay_serPay d.pay nf.1 nf.2 hnf hps]

/-- an `EncodedError` whose payloads are flat payload messages (no nested EncodedError) -/
inductive F
  | leaf (msg : Str) (d : Det) (cs : List F)
  | wrap (msg : Str) (d : Det) (mt : Nat) (c : F)
  deriving Repr, Inhabited

mutual
/-- forget the nested messages hidden in payloads (barrier, secondary error): they are messages of their own -/
def full : Enc → F
  | .leaf msg d _ cs => .leaf msg d (fullL cs)
  | .wrap msg d mt _ c => .wrap msg d mt (full c)
def fullL : List Enc → List F
  | [] => []
  | e :: r => full e :: fullL r
end

def leafItemsP (msg : Str) (d : Det) (kids : List Bytes) : List Item :=
  optLd 1 msg ++ [.ld 2 (serDetP d)] ++ kids.map (fun b => .ld 3 b)

def wrapItemsP (msg : Str) (d : Det) (mt : Nat) (kid : Bytes) : List Item :=
  [.ld 1 kid] ++ optLd 2 msg ++ [.ld 3 (serDetP d)] ++ optVi 4 mt

mutual
/-- `(*EncodedError).Marshal`, flat payloads included -/
def serF : F → Bytes
  | .leaf msg d cs => lenField 1 (serItems (leafItemsP msg d (serFs cs)))
  | .wrap msg d mt c => lenField 2 (serItems (wrapItemsP msg d mt (serF c)))
def serFs : List F → List Bytes
  | [] => []
  | w :: r => serF w :: serFs r
end

mutual
/-- `(*EncodedError).Unmarshal`, flat payloads included; `none` = the reader returns an error, or no
    member of the oneof is set -/
def desF : Nat → Bytes → Option F
  | 0, _ => none
  | f + 1, b =>
    match parseItems b.length b with
    | none => none
    | some top =>
      match lastOneof top with
      | none => none
      | some (true, body) =>
        match parseItems body.length body with
        | none => none
        | some xs =>
          match detOfBytesP (lastLd xs 2), desFs f (allLd xs 3) with
          | some d, some cs => some (.leaf ((lastLd xs 1).getD []) d cs)
          | _, _ => none
      | some (false, body) =>
        match parseItems body.length body with
        | none => none
        | some xs =>
          match detOfBytesP (lastLd xs 3), desF f ((lastLd xs 1).getD []) with
          | some d, some c => some (.wrap ((lastLd xs 2).getD []) d (lastVi xs 4) c)
          | _, _ => none
def desFs : Nat → List Bytes → Option (List F)
  | _, [] => some []
  | f, b :: r =>
    match desF f b, desFs f r with
    | some w, some ws => some (w :: ws)
    | _, _ => none
end


mutual
/-- every length that is written as a prefix fits 64 bits, and every payload is a modelled flat message (`PayOK`) -/
def SmallF : F → Prop
  | .leaf msg d cs => msg.length < 2 ^ 64 ∧ DetSmallP d ∧ (serItems (leafItemsP msg d (serFs cs))).length < 2 ^ 64 ∧ SmallFs cs
  | .wrap msg d mt c => msg.length < 2 ^ 64 ∧ DetSmallP d ∧ mt < 2 ^ 64 ∧ (serItems (wrapItemsP msg d mt (serF c))).length < 2 ^ 64 ∧
      (serF c).length < 2 ^ 64 ∧ SmallF c
def SmallFs : List F → Prop
  | [] => True
  | w :: r => (serF w).length < 2 ^ 64 ∧ SmallF w ∧ SmallFs r
end

mutual
def heightF : F → Nat
  | .leaf _ _ cs => heightFL cs + 1
  | .wrap _ _ _ c => heightF c + 1
def heightFL : List F → Nat
  | [] => 0
  | w :: r => max (heightF w) (heightFL r)
end

set_option smartUnfolding false in
theorem desF_succ (f : Nat) (b : Bytes) : desF (f + 1) b = desLayer detOfBytesP (desFs f) (desF f) .leaf .wrap b := by
  rw [desF]; rfl

mutual
theorem desF_serF : (w : F) → (f : Nat) → heightF w ≤ f → SmallF w → desF f (serF w) = some w
  | .leaf msg d cs, f + 1, hf, ⟨_, hd, hbody, hcs⟩ => by
    rw [serF, leafItemsP, desF_succ]
    exact desLayer_leaf hbody (detOfBytesP_serDetP d hd) (desFs_serFs cs f (Nat.le_of_succ_le_succ hf) hcs)
  | .wrap msg d mt c, f + 1, hf, ⟨_, hd, hmt, hbody, _, hc⟩ => by
    rw [serF, wrapItemsP, desF_succ]
    exact desLayer_wrap hmt hbody (detOfBytesP_serDetP d hd) (desF_serF c f (Nat.le_of_succ_le_succ hf) hc)
theorem desFs_serFs : (ws : List F) → (f : Nat) → heightFL ws ≤ f → SmallFs ws → desFs f (serFs ws) = some ws
  | [], f, _, _ => by simp [serFs, desFs]
  | w :: r, f, hf, ⟨_, hw, hr⟩ => by
    have ⟨h1, h2⟩ := Nat.max_le.mp hf
    simp [serFs, desFs, desF_serF w f h1 hw, desFs_serFs r f h2 hr]
end

end ErrModel.Proto
