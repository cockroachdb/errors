import ErrModel.Transport
import ErrModel.Accessors
/-
  What can be observed of an error without looking at hidden sub-errors or object identity: the visible
  cause tree with, at every node, a label (`Lbl`: Error() text, type mark and name, stored mark, Is
  signatures, the annotations `Ann` the accessors read) — what C01, C02 and C11 compare before and after
  transfer — and `stable`, the trees a hop between knowing processes maps to trees of the same shape.
-/
namespace ErrModel

/-- keys under which a printed stack is recognised after transfer (withstack/reportable.go) -/
def isStackKey (k : Str) : Bool :=
  k = (WrapKind.withStack []).ty.full || k = (WrapKind.pkgWithStack []).ty.full || k = (LeafKind.pkgFundamental [] []).ty.full

/-- the printed stack `GetReportableStackTrace` parses for one layer -/
def layerStackStr (P : Proc) : Err → Option Str
  | .wrap _ (.withStack st) _ => if st = [] then none else some (printStack st)
  | .wrap _ (.pkgWithStack st) _ => if st = [] then none else some (printStack st)
  | .leaf _ (.pkgFundamental _ st) => if st = [] then none else some (printStack st)
  | e =>
    match e.opaqueDet with
    | some d => if isStackKey (typeMark P e).fam then d.rep.head? else none
    | none => none

/-- the annotations one layer contributes to the public accessors -/
structure Ann where
  hint : Option Str
  detail : Option Str
  link : Option (Str × Str)
  keys : List Str
  domain : Option Str
  tags : Option (List (Str × Str))
  http : Option Nat
  grpc : Option Nat
  isAssert : Bool
  isUnimpl : Bool
  isLink : Bool
  timeout : Bool
  safe : List Str           -- per-layer safe details ([] for barrier and secondary layers, which embed a rendering)
  stack : Option Str        -- printed stack of a reportable layer
  deriving DecidableEq, Repr, Inhabited

def safeOf (vf : Err → Str) : Err → List Str
  | .barrier .. => []
  | .second .. => []
  | e => layerDetails Full vf e

def annOf (vf : Err → Str) (e : Err) : Ann :=
  ⟨layerHint e, layerDetail e, layerIssueLink e, layerKeys e, layerDomain e, layerTags e, layerHTTP e, layerGrpc e,
   isAssertionFailure e, isUnimplementedError e, isWithIssueLink e, timeoutLayer e, safeOf vf e, layerStackStr Full e⟩

/-- What `Is` and the accessors can observe of one visible layer, identity aside (C01, C02, C11). -/
structure Lbl where
  text : Str
  tmark : TMark                       -- (family, extension) of the layer
  otype : Str                         -- original type name
  stored : Option Mark                -- the mark carried by a `withMark` layer
  isSig : Option (Bool × Bool × Bool) -- what an errno-like layer's Is method answers for ErrPermission/ErrExist/ErrNotExist
  multi : Bool                        -- a multi-cause layer (its children are branches, not a cause)
  stSig : Option (Nat × Str × Nat)    -- a gRPC *status.Error layer: what its Is method compares
  ann : Ann                           -- what the layer contributes to the accessors
  deriving DecidableEq, Repr, Inhabited

def storedMark : Err → Option Mark
  | .wrap _ (.withMark m t) _ => some ⟨m, t⟩
  | _ => none

def isSigOf : Err → Option (Bool × Bool × Bool)
  | .leaf _ (.errno _ _ p x n _ _) => some (p, x, n)
  | .leaf _ (.opaqueErrno _ _ _ p x n _ _) => some (p, x, n)
  | _ => none

def isMultiNode : Err → Bool
  | .multi .. => true
  | _ => false

def stSigOf : Err → Option (Nat × Str × Nat)
  | .leaf _ (.grpcStatus c m nd) => some (c, m, nd)
  | _ => none

def label (vf : Err → Str) (e : Err) : Lbl :=
  ⟨text e, typeMark Full e, origTypeName e, storedMark e, isSigOf e, isMultiNode e, stSigOf e, annOf vf e⟩

inductive TTree
  | node (l : Lbl) (kids : List TTree)
  deriving Repr, Inhabited

def TTree.text : TTree → Str
  | .node l _ => l.text

section
variable (vf : Err → Str)
mutual
def shape : Err → TTree
  | .leaf id k => .node (label vf (.leaf id k)) []
  | .barrier id m h => .node (label vf (.barrier id m h)) []
  | .wrap id k c => .node (label vf (.wrap id k c)) [shape c]
  | .second id c s => .node (label vf (.second id c s)) [shape c]
  | .multi id k cs => .node (label vf (.multi id k cs)) (shapeL cs)
def shapeL : List Err → List TTree
  | [] => []
  | e :: r => shape e :: shapeL r
end
end

theorem shape_text (vf : Err → Str) (e : Err) : (shape vf e).text = text e := by
  cases e <;> simp [shape, TTree.text, label]

theorem text_eq_of_shape {vf : Err → Str} {a b : Err} (h : shape vf a = shape vf b) : text a = text b := by
  rw [← shape_text vf a, ← shape_text vf b, h]

/-! ## Stability: the trees on which transfer between knowing processes is the identity on text -/

/-- a foreign type: no decoder registered under its name, and not a migrated name -/
def userOK (u : UserTy) : Bool :=
  classify u.name = .other && Full.family u.name = u.name && !isStackKey u.name

def leafStable : LeafKind → Bool
  | .opaqueLeaf _ d hid => classify d.mark.fam = .other && !(hid.isEmpty && d.pay = .testErr)
  | .user u _ => userOK u
  -- an OpaqueErrno (errno received from another architecture) is re-sent under its own type
  -- name, for which no decoder exists: its `Is` method is lost on the next hop (the open observation of DESIGN 14.3)
  | .opaqueErrno .. => false
  | .pkgFundamental _ st => st ≠ []
  -- a status with code OK is not an error (Status.Err() returns nil)
  | .grpcStatus c _ _ => c ≠ 0
  | .gogoStatus c _ _ => c ≠ 0
  | _ => true

/-- `ct` is the Error() text of the cause -/
def wrapStable (k : WrapKind) (ct : Str) : Bool :=
  match k with
  | .opaqueWrapper _ d _ _ => classify d.mark.fam = .other
  | .user u msg => userOK u &&
      (if u.style = 0 then msg ≠ [] else if u.style = 1 then msg ≠ colonSp ++ ct else true)
  | .fmtWrapError msg => msg ≠ colonSp ++ ct
  -- WithContextTags never attaches an empty tag set, and a logtags buffer has distinct keys
  | .withContext tags _ red => tags ≠ [] && dedupTags tags = tags && red ≠ some []
  -- a captured stack is never empty (runtime.Callers returns at least the caller)
  | .withStack st => st ≠ []
  | .pkgWithStack st => st ≠ []
  | .withMark _ tys => tys ≠ []          -- a mark carries at least the type of its reference
  | _ => true

/-- multi-cause layers have at least one branch (Join of nothing is nil; a foreign
    multi-cause error with no causes is indistinguishable from a leaf on the wire) -/
def multiStable (k : MultiKind) (n : Nat) : Bool :=
  n ≠ 0 &&
  match k with
  | .opaqueLeafCauses _ d hid => classify d.mark.fam = .other && !(hid.isEmpty && d.pay = .testErr)
  | .user u _ => userOK u
  | _ => true

mutual
def stable : Err → Bool
  | .leaf _ k => leafStable k
  | .barrier _ m h => (m.recv != some []) && stable h   -- received details, when kept, are not empty (a local barrier always has some)
  | .wrap _ k c => wrapStable k (text c) && stable c
  | .second _ c s => stable c && stable s
  | .multi _ k cs => multiStable k cs.length && stableL cs
def stableL : List Err → Bool
  | [] => true
  | e :: r => stable e && stableL r
end

end ErrModel
