import ErrModel.Obs
import ErrModel.Props.C01
import ErrModel.Props.C02
import ErrModel.Props.C03
import ErrModel.Props.C04
import ErrModel.Props.C05
import ErrModel.Props.C06
import ErrModel.Props.C07
import ErrModel.Props.C08
import ErrModel.Props.C09
import ErrModel.Props.C10
import ErrModel.Props.C11
import ErrModel.Props.C12
import ErrModel.Props.C13
import ErrModel.Props.C14
import ErrModel.Props.C15
import ErrModel.Props.C16
import ErrModel.Props.C17
import ErrModel.Props.C18
import ErrModel.Props.C19
import ErrModel.Props.C20
